import Proofs.Span
import Proofs.Scan
import Proofs.RunLoop
import Proofs.Metadata
import Proofs.Assign
import Proofs.FileStore
import Proofs.PathsStore
import Proofs.Group
import Proofs.Matcher
import Proofs.Print
import Proofs.Match
import Proofs.Lex
import Proofs.MetaFields
import Proofs.Funcs
import Proofs.Csv
import Proofs.ErrorPolicy
import Proofs.Headers
import Proofs.Archive
import Proofs.RunDir
import Proofs.Chain
import Proofs.BridgeAssign
import Proofs.BridgeScanner
import Proofs.BridgeHandleIf
import Proofs.BridgeConsiderLine
import Proofs.BridgeModes
import Proofs.MatchTop
import Proofs.BridgeMatches
import Proofs.BridgeWhen
import Proofs.BridgeLineMonitor
import Proofs.BridgeControl
import Proofs.BridgeSelect
import Proofs.BridgeResults
import Proofs.BridgeIdentity
import Proofs.BridgeLast
