import Generated.CoreWhen
import Model.WhenTop
import Model.Interp
import Proofs.BridgeWhen

/-! Tie (T) for the when/do operator (C03, C04): the Lean translation of `Equality._do_when` (Generated/CoreWhen.lean, written anew on every run, heap mode)
    computes `Model.WhenTop.whenDo`.  The two sides of `->` are the opaque calls `self.left.matches(skip=skip)` and
    `self.right.matches(skip=skip)`: any functions of the environment that keep `Proofs.BridgeWhen.Contract` (they return values, leave
    values in the environment, and the left-hand side does not change the facts `_do_when` reads about it).  The interpreter model's
    `evalWhen` is the same definition over the interpreter's state. -/
namespace Props.WhenTie
open Model.WhenTop Proofs.BridgeWhen
open Proofs.BridgeMatches (Clean okVE)

-- `beq_self_eq_true` / `bne_self_eq_false`: the source tests `self.op == "->"`, or `!=` as R2 of DESIGN AB.7 arranges it
set_option linter.unusedSimpArgs false in
/-- `Equality._do_when` is `whenDo`; the left-hand side overrides frozen when it is a function (`a`) that says so (`b`) -/
theorem when_source_is_model (ext : Py.Ext) (e : Py.Env) (skip : Py.V) (effs : List Py.Eff) (dm nc a b d : Bool)
    (hC : Contract ext) (hcl : Clean e) (hskip : Py.isExc skip = false) (hop : e "self.op" = .str "->")
    (hf : Facts e dm nc a b) (hd : e "self.default_match()" = .bool d) :
    okVE (Generated.When.Equality._do_when ext e skip effs) =
      some (.bool (whenDo (world ext skip) dm nc (a && b) e).1, (whenDo (world ext skip) dm nc (a && b) e).2) := by
  simp only [py_core, hop, py_eval, beq_self_eq_true, bne_self_eq_false, Py.H.cond_clean (hcl _), whenDo, world]
  by_cases hs : Py.truthy (e "self.sentinel") = true
  · simp only [hs, hd, py_eval]
    rfl
  simp only [hs, Py.H.call_ok [skip] (Py.firstExc_one hskip) (hC.value _ _ _)]
  -- after the left-hand side ran
  have hcl1 : Clean (Py.upd e "self.sentinel" (.bool true)) := Proofs.BridgeMatches.clean_upd _ _ _ hcl rfl
  have hcl2 := hC.clean "left_matches" [skip] _ hcl1
  obtain ⟨g1, g2, g3, g4⟩ := hC.facts [skip] _ dm nc a b (hf.upd "self.sentinel" (.bool true) (by decide) (by decide) (by decide) (by decide))
  simp only [hcl2 _, Py.is_bool (hC.value _ _ _), py_eval, Py.upd_other, String.reduceEq, not_false_eq_true,
    g1, g2, g3, g4, Py.and_bools]
  generalize (a && b) = ov
  by_cases hl : Py.isb (ext "left_matches" [skip] (Py.upd e "self.sentinel" (.bool true))).1 (.bool true) = true <;>
    simp only [hl, if_true] <;> cases dm <;> cases nc <;> cases ov <;> rfl

/-- C03 (order), of the translated source: when the left-hand side answers True (and is not a `last()` that overrides frozen) the
    right-hand side runs exactly once, in the state the left-hand side left (plus the operator's own two marks), and what
    `_do_when` leaves is what the right-hand side left. -/
theorem c03_when_order_source (ext : Py.Ext) (e : Py.Env) (skip : Py.V) (effs : List Py.Eff) (dm nc d : Bool)
    (hC : Contract ext) (hcl : Clean e) (hskip : Py.isExc skip = false) (hop : e "self.op" = .str "->")
    (hf : Facts e dm nc false false) (hd : e "self.default_match()" = .bool d) (hs : Py.truthy (e "self.sentinel") = false)
    (hl : Py.isb (ext "left_matches" [skip] (Py.upd e "self.sentinel" (.bool true))).1 (.bool true) = true) :
    okVE (Generated.When.Equality._do_when ext e skip effs) =
      some (.bool (!(!dm && nc)),
        (ext "right_matches" [skip]
          (Py.upd (ext "left_matches" [skip] (Py.upd e "self.sentinel" (.bool true))).2 "self.DO_WHEN" (.bool true))).2) := by
  rw [when_source_is_model ext e skip effs dm nc false false d hC hcl hskip hop hf hd]
  simp only [whenDo, world, hs, hl, Bool.false_eq_true, if_false, if_true, Bool.and_false]

/-- `last() -> x` (C13), of the translated source: when the left-hand side is a function that overrides frozen (`last()`, `fail()`) and
    answers True, the right-hand side runs with the csvpath unfrozen, and the freeze is put back afterwards. -/
theorem c13_when_override_source (ext : Py.Ext) (e : Py.Env) (skip : Py.V) (effs : List Py.Eff) (dm nc d : Bool)
    (hC : Contract ext) (hcl : Clean e) (hskip : Py.isExc skip = false) (hop : e "self.op" = .str "->")
    (hf : Facts e dm nc true true) (hd : e "self.default_match()" = .bool d) (hs : Py.truthy (e "self.sentinel") = false)
    (hl : Py.isb (ext "left_matches" [skip] (Py.upd e "self.sentinel" (.bool true))).1 (.bool true) = true) :
    okVE (Generated.When.Equality._do_when ext e skip effs) =
      some (.bool (!(!dm && nc)),
        Py.upd (ext "right_matches" [skip]
          (Py.upd (Py.upd (ext "left_matches" [skip] (Py.upd e "self.sentinel" (.bool true))).2
            "self.matcher.csvpath.is_frozen" (.bool false)) "self.DO_WHEN" (.bool true))).2
          "self.matcher.csvpath.is_frozen" (.bool true)) := by
  rw [when_source_is_model ext e skip effs dm nc true true d hC hcl hskip hop hf hd]
  simp only [whenDo, world, hs, hl, Bool.false_eq_true, if_false, if_true, Bool.and_self]

/-- C04 (unexecuted branch), of the translated source: when the left-hand side does not answer True the right-hand side is not
    called at all — what `_do_when` leaves is what the left-hand side left, plus the mark `DO_WHEN = False`. -/
theorem c04_unexecuted_branch_source (ext : Py.Ext) (e : Py.Env) (skip : Py.V) (effs : List Py.Eff) (dm nc a b d : Bool)
    (hC : Contract ext) (hcl : Clean e) (hskip : Py.isExc skip = false) (hop : e "self.op" = .str "->")
    (hf : Facts e dm nc a b) (hd : e "self.default_match()" = .bool d) (hs : Py.truthy (e "self.sentinel") = false)
    (hl : Py.isb (ext "left_matches" [skip] (Py.upd e "self.sentinel" (.bool true))).1 (.bool true) = false) :
    okVE (Generated.When.Equality._do_when ext e skip effs) =
      some (.bool (if !dm && nc then false else nc),
        Py.upd (ext "left_matches" [skip] (Py.upd e "self.sentinel" (.bool true))).2 "self.DO_WHEN" (.bool false)) := by
  rw [when_source_is_model ext e skip effs dm nc a b d hC hcl hskip hop hf hd]
  simp only [whenDo, world, hs, hl, Bool.false_eq_true, if_false]

/-! ### the interpreter model's `evalWhen` is an instance -/
open Model.Interp in
def interpWorld (fuel : Nat) (env : Model.Interp.Env) (l r : Model.Interp.Node) : World Model.Interp.ES where
  evalL s := ((evalM fuel env l s).1 == some true, (evalM fuel env l s).2)
  evalR s := (evalM fuel env r s).2
  sentinel _ := false
  setSentinel s := s
  defaultMatch _ := env.dm
  setDoWhen _ s := s
  setFrozen b s := emit s (.freeze b)

open Model.Interp in
theorem interp_is_instance (fuel : Nat) (env : Model.Interp.Env) (l r : Model.Interp.Node) (s : Model.Interp.ES) :
    evalWhen (fuel + 1) env l r s =
      (some (whenDo (interpWorld fuel env l r) env.dm (nodeNocontrib l) (overridesFrozen l) s).1,
       (whenDo (interpWorld fuel env l r) env.dm (nodeNocontrib l) (overridesFrozen l) s).2) := by
  cases hdm : env.dm <;> by_cases hl : (evalM fuel env l s).1 = some true <;> simp [evalWhen, whenDo, interpWorld, *]

/-! non-vacuity: a left-hand side that answers True, sides that change nothing, an AND-mode environment with the sentinel down -/
def exExt : Py.Ext := fun name _ e => (.bool (name == "left_matches"), e)
def exEnv : Py.Env := fun k =>
  if k = "self.op" then .str "->" else if k = "self.matcher._AND" then .bool true
  else if k = "self._left_nocontrib(self.left)" then .bool false else if k = "isinstance(self.left, Function)" then .bool false
  else if k = "self.left.override_frozen()" then .bool false else if k = "self.default_match()" then .bool true
  else if k = "self.sentinel" then .bool false else .none
example : Contract exExt := ⟨fun _ _ _ => rfl, fun _ _ _ h => h, fun _ _ _ _ _ _ h => h⟩
example : Facts exEnv true false false false := ⟨rfl, rfl, rfl, rfl⟩
example : Clean exEnv := fun k => by simp only [exEnv, apply_ite Py.isExc, py_eval, ite_self]

end Props.WhenTie
