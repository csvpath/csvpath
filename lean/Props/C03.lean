/-
  C03 — Variables and run counters end up with the values the csvpath assigns.
  Counter clauses at run-loop level (parametric in the matcher), then the interpreter clauses.
-/
import Model.RunLoop
import Proofs.RunLoop
import Model.Matcher
import Proofs.Matcher
import Proofs.Funcs

namespace Props.C03
open Model.Scan Model.Run Proofs.Run

variable {σ : Type}

/-- `scan_count` is the number of lines offered to the match part — for every matcher -/
theorem c03_scan_count (m : MatcherSem σ) (scan : St) (cfg : Cfg) (budget : Option Nat)
    (recs : List Rec) (ms : σ) :
    (runWith m scan cfg budget recs { ms := ms }).2.1.scanCount =
      (runWith m scan cfg budget recs { ms := ms }).2.1.offered.length := by
  cases hw : cfg.willRun
  · rw [runWith_norun hw]; rfl
  · rw [runWith_run hw]; exact (runFrom_Inv (Inv_init ms)).scan

/-- `match_count` is the number of lines that matched — for every matcher that raises the count
    early only on a line it then reports as matching (contract `CountsOK`) -/
theorem c03_match_count (m : MatcherSem σ) (hm : CountsOK m) (scan : St) (cfg : Cfg) (budget : Option Nat)
    (recs : List Rec) (ms : σ) :
    (runWith m scan cfg budget recs { ms := ms }).2.1.fl.matchCount =
      (runWith m scan cfg budget recs { ms := ms }).2.1.matched.length := by
  cases hw : cfg.willRun
  · rw [runWith_norun hw]; rfl
  · rw [runWith_run hw]; exact runFrom_matchCount hm rfl

/-- what the matcher is shown on an offered record: the 1-based number of scans so far and the
    match count before the line (`count()` = that + 1 on a matching line) -/
theorem c03_ctx_counts (i : Nat) (endIdx : Option Nat) (st : LoopSt σ) :
    (mkCtx i endIdx false (offer i st)).scanCount = st.scanCount + 1 ∧
    (mkCtx i endIdx false (offer i st)).curMatchCount = st.fl.matchCount ∧
    (mkCtx i endIdx false (offer i st)).idx = i := ⟨rfl, rfl, rfl⟩

/-- same-line dependency: a component is evaluated in the state produced by the effects of the
    components before it on the same line (so an assignment reads what earlier components of the
    line wrote) -/
theorem c03_sameline (env : Model.Interp.Env) (e : Model.Interp.Node) (es : List Model.Interp.Node)
    (v : Model.Interp.View) (f : Bool) (b : Option String) (hs : v.stopped = false) (hk : v.skip = false) :
    ∃ f' b', Model.Interp.matchExprs env (e :: es) v f b =
      Model.Interp.matchExprs env es (Model.Interp.applyAll v (Model.Interp.evalExpr env v e).2.1) f' b' :=
  ⟨_, _, Proofs.Matcher.matchExprs_step env e es v f b hs hk⟩

/-- `left -> right`: when `left` holds, `right` is evaluated in the state `left` leaves (so an
    assignment on the right sees what the left side wrote), and that is all the component does -/
theorem c03_when_order (fuel : Nat) (env : Model.Interp.Env) (l r : Model.Interp.Node) (s : Model.Interp.ES)
    (h : ((Model.Interp.evalM fuel env l s).1 == some true) = true) (ho : Model.Interp.overridesFrozen l = false) :
    (Model.Interp.evalWhen (fuel + 1) env l r s).2 =
      (Model.Interp.evalM fuel env r (Model.Interp.evalM fuel env l s).2).2 := by
  unfold Model.Interp.evalWhen
  simp only [h, if_true, ho, Bool.false_eq_true, if_false]

/-- `line_number()`, `count_lines()`, `count_scans()`, `count()` and `total_lines()` report, on every line and whatever
    else the csvpath does, the line's 0-based position, the 1-based count of data lines, the 1-based number of the scan
    (`c03_ctx_counts`: the loop's `scan_count` after it was raised for this line) and the match count so far plus one — the
    fields of the environment the matcher is handed for the line (`interpMatcher` fills them from the run loop's context) —
    and change no state. -/
theorem c03_position_functions (fuel : Nat) (env : Model.Interp.Env) (id : Nat) (q : List String) (s : Model.Interp.ES) :
    Model.Interp.produceFn (fuel + 1) env id "line_number" q [] s = (.int env.idx, s) ∧
    Model.Interp.produceFn (fuel + 1) env id "count_lines" q [] s = (.int env.dataCount, s) ∧
    Model.Interp.produceFn (fuel + 1) env id "count_scans" q [] s = (.int env.scanCount, s) ∧
    Model.Interp.produceFn (fuel + 1) env id "count" q [] s = (.int (env.matchCount + 1), s) ∧
    Model.Interp.produceFn (fuel + 1) env id "total_lines" q [] s = (.int env.dataEndCount, s) := by
  fn_branch Model.Interp.produceFn

end Props.C03
