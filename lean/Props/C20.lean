/-
  C20 — Data and values flow between csvpaths as declared.
-/
import Model.Chain
import Proofs.Chain

namespace Props.C20
open Model.Scan Model.Run Model.Chain Proofs.Chain

variable {σ : Type}

/-- every stage with `source-mode: preceding` (after the first) reads exactly the lines its
    predecessor collected; every other stage reads the origin file -/
theorem c20_chain_inputs (origin : List Rec) :
    ∀ (stages : List (Stage σ)) (prev : Option (List Rec)) (i : Nat) (h : i < stages.length),
      ((serialChain origin stages prev)[i]?).map (·.1) =
        some (if stages[i].preceding then
                (if i = 0 then prev.getD origin
                 else (((serialChain origin stages prev)[i - 1]?).map (·.2)).getD origin)
              else origin) := by
  intro stages
  induction stages with
  | nil => intro prev i h; simp at h
  | cons s rest ih =>
    intro prev i h
    cases i with
    | zero =>
      simp only [serialChain, List.getElem?_cons_zero, Option.map_some, List.getElem_cons_zero, if_true]
      cases hp : s.preceding <;> cases prev <;> simp
    | succ j =>
      have hj : j < rest.length := by simpa using h
      simp only [serialChain, List.getElem?_cons_succ, List.getElem_cons_succ]
      rw [ih (some _) j hj]
      -- the predecessor of stage `j + 1` is the head when `j = 0` and lies in the tail otherwise
      cases j <;> simp

/-- a chain in which every later stage is `preceding`: the last result is the composition of the
    stages applied to the origin file -/
theorem c20_chain_compose (origin : List Rec) (s0 : Stage σ) (rest : List (Stage σ))
    (hp : ∀ s ∈ rest, s.preceding = true) :
    ((serialChain origin (s0 :: rest) none).getLast?.map (·.2)) =
      some (rest.foldl (fun acc s => stageLines s acc) (stageLines s0 origin)) := by
  have gen : ∀ (rest : List (Stage σ)) (first : List Rec × List Rec), (∀ s ∈ rest, s.preceding = true) →
      ((first :: serialChain origin rest (some first.2)).getLast?.map (·.2)) =
        some (rest.foldl (fun acc s => stageLines s acc) first.2) := by
    intro rest
    induction rest with
    | nil => intro first _; rfl
    | cons s r ih =>
      intro first hp
      obtain ⟨hs, hp⟩ := List.forall_mem_cons.mp hp
      simp only [serialChain, hs, List.foldl_cons]
      rw [List.getLast?_cons_cons]
      exact ih (first.2, stageLines s first.2) hp
  have : serialChain origin (s0 :: rest) none =
      (origin, stageLines s0 origin) :: serialChain origin rest (some (stageLines s0 origin)) := by
    simp only [serialChain]
    cases s0.preceding <;> rfl
  rw [this]
  exact gen rest _ hp

/-- a variable written by exactly one member of the referenced group is found with that member's
    final value in the merged variables a reference reads -/
theorem c20_varref {ν : Type} (before : List (List (String × ν))) (mine : List (String × ν))
    (after : List (List (String × ν))) (name : String)
    (hb : ∀ r ∈ before, ∀ kv ∈ r, (kv.1 == name) = false) :
    lookupVar (mergeVars (before ++ mine :: after)) name = lookupVar mine name ∨
    (lookupVar mine name = none) := by
  have : before.findSome? (lookupVar · name) = none := by simpa [lookupVar] using hb
  rw [lookupVar_mergeVars, List.findSome?_append, this, List.findSome?_cons]
  cases lookupVar mine name <;> simp

/-- a header reference is the list of (stripped) cells under the header in the lines the
    referenced member collected — one per line that is long enough, in order -/
theorem c20_headerref (strip : String → String) (i : Nat) (lines : List Rec) :
    headerValues strip i lines = (lines.filter (fun l => l.length > i)).map (fun l => strip (l.getD i "")) := by
  rw [← List.filterMap_eq_map, List.filterMap_filter]
  simp only [headerValues, decide_eq_true_eq, Function.comp_apply]

end Props.C20
