import Generated.CoreModes
import Model.Modes
import Proofs.BridgeModes
/-! Tie (T) for C15 ("comment mode settings take effect"): the Lean translations of the `value` getters of ReturnMode, RunMode,
    UnmatchedMode and (C20) SourceMode (Generated/CoreModes.lean, written anew on every run, heap mode) read the metadata field of the outer comment as
    `Model.Modes` says — for every text of the field. -/
namespace Props.C15Tie
open Model.Modes Proofs.BridgeModes

/-- `return-mode`: after `update()` (the cache is None) the getter answers True exactly for `no-matches`, False for `matches` or a
    missing field (surrounding white space aside), and raises InputException for anything else -/
theorem return_mode_source_is_model (ext : Py.Ext) (e : Py.Env) (m : Option String) (effs : List Py.Eff)
    (h1 : e "self._return_mode" = .none) (h2 : e "self.controller.get(return-mode)" = optStr m) :
    okV (Generated.Modes.ReturnMode.value ext e effs) = (returnMode m).map Py.V.bool ∧
    (returnMode m = Option.none → raisedOf (Generated.Modes.ReturnMode.value ext e effs) = some "InputException") := by
  rw [return_mode_result ext e m effs h1 h2]
  cases returnMode m with
  | none => exact ⟨rfl, fun _ => rfl⟩
  | some b => exact ⟨rfl, nofun⟩

/-- `run-mode`: False exactly for `no-run`, True for `run` or a missing field, InputException otherwise -/
theorem run_mode_source_is_model (ext : Py.Ext) (e : Py.Env) (m : Option String) (effs : List Py.Eff)
    (h1 : e "self._run_mode" = .none) (h2 : e "self.controller.get(run-mode)" = optStr m) :
    okV (Generated.Modes.RunMode.value ext e effs) = (runMode m).map Py.V.bool ∧
    (runMode m = Option.none → raisedOf (Generated.Modes.RunMode.value ext e effs) = some "InputException") := by
  rw [run_mode_result ext e m effs h1 h2]
  cases runMode m with
  | none => exact ⟨rfl, fun _ => rfl⟩
  | some b => exact ⟨rfl, nofun⟩

/-- `unmatched-mode`: unmatched lines are kept iff the field is there and does not contain `no-keep` -/
theorem unmatched_mode_source_is_model (ext : Py.Ext) (e : Py.Env) (m : Option String) (effs : List Py.Eff)
    (h1 : e "self._unmatched_mode" = .none) (h2 : e "self.controller.get(unmatched-mode)" = optStr m) :
    okV (Generated.Modes.UnmatchedMode.value ext e effs) = some (.bool (unmatchedMode m)) := by
  cases m with
  | none =>
    md_norm [py_core, h1, h2]
    rfl
  | some s =>
    md_norm [py_core, h1, h2, unmatchedMode]
    cases Py.findFrom "no-keep".toList s.toList 0 <;> rfl

/-- `source-mode` (C20): the csvpath reads its predecessor's collected lines iff the field is `preceding` -/
theorem source_mode_source_is_model (ext : Py.Ext) (e : Py.Env) (m : Option String) (effs : List Py.Eff)
    (h1 : e "self._source_mode" = .none) (h2 : e "self.controller.get(source-mode)" = optStr m) :
    okV (Generated.Modes.SourceMode.value ext e effs) = some (.bool (sourceMode m)) := by
  simp only [py_core, h1, h2, eq_optStr, py_eval]
  rfl

/-- the settings the property names, as written -/
theorem c15_settings :
    returnMode (some "no-matches") = some true ∧ returnMode (some "matches") = some false ∧ returnMode none = some false ∧
    runMode (some "no-run") = some false ∧ runMode (some "run") = some true ∧ runMode none = some true ∧
    unmatchedMode (some "keep") = true ∧ unmatchedMode (some "no-keep") = false ∧ unmatchedMode none = false := by
  decide +kernel

end Props.C15Tie
