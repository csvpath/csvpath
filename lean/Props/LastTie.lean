import Generated.CoreLast
import Model.Interp
import Proofs.BridgeLast

/-! Tie (T) for last() (C13): the Lean translation of `Last._decide_match` with `LineMonitor.is_last_line` (Generated/CoreLast.lean, written anew on every run).
    What it encloses is the opaque call `self.children[0].matches(...)`; `scanner.is_last(n)` is a question to the scanner (answered
    as `Model.Scan.isLast` by `Props.C02Tie`). -/
namespace Props.LastTie
open Proofs.BridgeLast
open Proofs.BridgeMatches (okVE)

/-- `Last._decide_match` leaves what `Proofs.BridgeLast.lastFn` says; the interpreter model's case is `interp_last` -/
theorem last_source_is_model (ext : Py.Ext) (e : Py.Env) (skip : Py.V) (effs : List Py.Eff) (endIdx : Option Nat) (i : Nat)
    (hasScanner scanLast : Bool) (n : Nat) (hval : ∀ name a e, Py.isExc (ext name a e).1 = false)
    (hf : Facts e endIdx i hasScanner scanLast n ext) :
    okVE (Generated.Last.Last._decide_match ext e skip effs) =
      some (.none, lastFn ext (holds endIdx i hasScanner scanLast) n e) := by
  obtain ⟨f1, f2, f3, f4, f5, f6⟩ := hf
  cases hasScanner <;> cases scanLast <;> cases hx : endIdx == some i <;> cases hc : n == 1 <;>
    simp only [py_core, f1, f2, f3, f4, f5, f6, Proofs.BridgeMatches.eq_optNat, Py.eq_one, hx, hc, py_eval,
      Py.H.call_ok [] rfl (hval _ _ _), Py.upd_other, String.reduceEq, not_false_eq_true,
      Py.and_truthy (show Py.truthy (.str "scanner") = true by decide), lastFn, holds] <;> rfl

/-- C13 (last), of the translated source: `last()` answers True exactly on the file's last line and on the last line the scan part
    selects; on any other line what it encloses is not run and nothing but its own answer is written. -/
theorem c13_last_source (ext : Py.Ext) (e : Py.Env) (skip : Py.V) (effs : List Py.Eff) (endIdx : Option Nat) (i : Nat)
    (hasScanner scanLast : Bool) (n : Nat) (hval : ∀ name a e, Py.isExc (ext name a e).1 = false)
    (hf : Facts e endIdx i hasScanner scanLast n ext) :
    ∃ env', okVE (Generated.Last.Last._decide_match ext e skip effs) = some (.none, env') ∧
      (holds endIdx i hasScanner scanLast = false → env' = Py.upd e "self.match" (.bool false)) ∧
      (holds endIdx i hasScanner scanLast = true → n = 0 → env' = Py.upd e "self.match" (.bool true)) ∧
      (holds endIdx i hasScanner scanLast = true → n = 1 →
        env' = Py.upd (ext "child_matches" [] (Py.upd (Py.upd e "self.match" (.bool true)) "self.matcher.csvpath.is_frozen" (.bool false))).2
          "self.matcher.csvpath.is_frozen" (.bool true)) := by
  refine ⟨_, last_source_is_model ext e skip effs endIdx i hasScanner scanLast n hval hf, ?_, ?_, ?_⟩
  · intro h; simp [lastFn, h]
  · intro h hn; subst hn; simp [lastFn, h]
  · intro h hn; subst hn; simp [lastFn, h]

/-- the interpreter model's `last` has the same shape: it holds on the last line of the file or of the scan, and runs what it
    encloses there between lifting and restoring the freeze -/
theorem interp_last (fuel : Nat) (env : Model.Interp.Env) (id : Nat) (q : List String) (a : Model.Interp.Node) (s : Model.Interp.ES) :
    Model.Interp.decideFn (fuel + 1) env id "last" q [] s = (some (env.isLastLine || env.scanIsLast), s) ∧
    Model.Interp.decideFn (fuel + 1) env id "last" q [a] s =
      (if env.isLastLine || env.scanIsLast then
        (some true, Model.Interp.emit (Model.Interp.evalM fuel env a (Model.Interp.emit s (.freeze false))).2 (.freeze true))
       else (some false, s)) := by
  refine ⟨?_, ?_⟩ <;> unfold Model.Interp.decideFn <;>
    simp only [String.reduceBEq, Bool.or_self, Bool.false_eq_true, ↓reduceIte, List.contains_cons, List.contains_nil] <;>
    cases (env.isLastLine || env.scanIsLast) <;> rfl

end Props.LastTie
