/-
  C09 — The archived results of a run say what the run did  (and the abort clauses of C18).
  Member results are arbitrary data; the hash function is a parameter.
-/
import Model.Archive
import Proofs.Archive
import Proofs.Csv

namespace Props.C09
open Model.Archive Proofs.Archive

variable {ν ε δ : Type}

/-- what "the member directory says what the member did" means -/
structure Consistent (H : Content ν ε → δ) (r : MemberResult ν ε) (d : MemberDir ν ε δ) : Prop where
  vars : fileOf d "vars.json" = some (.vars r.vars)
  errors : fileOf d "errors.json" = some (.errors r.errors)
  metaFile : fileOf d "meta.json" = some (.metaInfo r.identity)
  data : fileOf d "data.csv" = (if r.lines.isEmpty then none else some (.csv r.lines))
  unmatched : fileOf d "unmatched.csv" = (if r.unmatched.isEmpty then none else some (.csv r.unmatched))
  printouts : fileOf d "printouts.txt" = (if r.printouts.isEmpty then none else some (.text r.printouts))
  manifest : ∃ m, d.manifest = some m ∧ m.valid = r.valid ∧ m.completed = r.completed ∧
    m.errorCount = r.errors.length ∧
    (∀ n h, (n, h) ∈ m.fingerprints → ∃ c, fileOf d n = some c ∧ h = H c) ∧
    (∀ n c, n ∈ fingerprinted → fileOf d n = some c → (n, H c) ∈ m.fingerprints)

theorem saveMember_consistent (H : Content ν ε → δ) (r : MemberResult ν ε) :
    Consistent H r (saveMember H r) := by
  refine ⟨?_, ?_, ?_, ?_, ?_, ?_, _, rfl, rfl, rfl, rfl, ?_, ?_⟩
  -- each file: the lookup runs through `memberFiles`, comparing names
  iterate 6 simp [fileOf_saveMember, memberFiles, fileIn_append, fileIn_cons, fileIn_nil, fileIn_ite]
  · intro n h hm
    simp only [List.mem_filterMap, Option.map_eq_some_iff, Prod.mk.injEq] at hm
    obtain ⟨_, _, c, hc, rfl, rfl⟩ := hm
    exact ⟨c, hc, rfl⟩
  · intro n c hn hc
    exact List.mem_filterMap.mpr ⟨n, hn, by rw [← fileOf_saveMember H, hc]; rfl⟩

/-- After a serial run returns normally: the run manifest says `complete`, its all_valid /
    all_completed / error_count are the conjunction / sum over the members, there is one directory
    per member named by its identity (or index), and every member directory is consistent with the
    member's in-memory result — in particular every fingerprint is the hash of the file's final
    content. -/
theorem c09_consistent (H : Content ν ε → δ) (results : List (MemberResult ν ε)) :
    let out := serialRun H results none
    out.2 = false ∧
    out.1.manifest = some (completeManifest results) ∧
    out.1.members.map (·.1) = results.map (·.identity) ∧
    ∀ i (h : i < results.length), ∃ d, out.1.members[i]? = some (results[i].identity, d) ∧ Consistent H results[i] d := by
  simp only [serialRun, serialFrom_none, List.nil_append]
  exact ⟨rfl, rfl, by simp, fun i h => ⟨_, by simp [h], saveMember_consistent H _⟩⟩

/-- C18, abort clauses: when member k's run raises and the policy re-raises, the exception
    reaches the caller, the run manifest never says `complete`, members before k keep complete,
    consistent results, member k itself has its directory with readable meta/vars/errors files
    and a manifest carrying its (not completed) flags, and no later member is started. -/
theorem c18_abort (H : Content ν ε → δ) (results : List (MemberResult ν ε)) (k : Nat) (hk : k < results.length) :
    let out := serialRun H results (some k)
    out.2 = true ∧
    out.1.manifest = some startManifest ∧
    out.1.members = (results.take (k + 1)).map (fun r => (r.identity, saveMember H r)) := by
  have := serialFrom_abort H results k 0 [] hk
  simp only [Nat.zero_add, List.nil_append] at this
  simp [serialRun, this]

/-! what `Content.csv rows` stands for on disk -/

/-- `csv.writer(f)` / `csv.reader(f)` with no arguments -/
def csvDefault : Model.Csv.Dialect := ⟨',', '"', 131072⟩

/-- the bytes of data.csv (written by the line spooler in the run's dialect `d`) and of
    unmatched.csv (`d = csvDefault`): `csv.writer(f, …).writerow` per line with the default line
    terminator, file opened in text mode -/
def csvText (d : Model.Csv.Dialect) (rows : List Rec) : List Char :=
  Model.Csv.renderCRLF d (rows.map (·.map String.toList))

/-- **data.csv and unmatched.csv say which lines were kept**: read back with `csv.reader` in the
    same dialect over a text-mode file (as `Result.lines` does and as the next member of a
    `source-mode: preceding` chain reads them) they give exactly the lines the member held in
    memory — every cell, in order — whatever the cells contain (no carriage return), for every
    delimiter and quote character -/
theorem c09_csv_content (d : Model.Csv.Dialect) (hd : Proofs.Csv.WFD d) (rows : List Rec)
    (h : ∀ r ∈ rows, ∀ c ∈ r, '\r' ∉ c.toList ∧ c.toList.length ≤ d.limit) :
    (Model.Csv.read d (csvText d rows)).map (·.map (·.map String.ofList)) = some rows := by
  unfold csvText
  rw [Proofs.Csv.read_renderCRLF hd]
  · simp [Function.comp_def]
  · simpa using h

example : (Model.Csv.read csvDefault (csvText csvDefault [["he said \"hi\"", "a,b"], ["line\nbreak", ""]])).map (·.map (·.map String.ofList))
    = some [["he said \"hi\"", "a,b"], ["line\nbreak", ""]] := by decide

example : Proofs.Csv.WFD csvDefault := Proofs.Csv.wfd_comma_quote

/-! Non-vacuity (variables are a number, errors are line numbers, the "hash" is the constructor tag) -/
def tagH : Content Nat Nat → Nat
  | .metaInfo _ => 0 | .vars v => 100 + v | .errors es => 200 + es.length | .csv rows => 300 + rows.length | .text ls => 400 + ls.length

def sampleResult : MemberResult Nat Nat := ⟨"a", 7, [3], ["p"], [["x"]], [], false, true⟩

example : ((serialRun tagH [sampleResult] none).1.members.map (fun m => m.2.manifest.map (·.fingerprints))) =
    [some [("data.csv", 301), ("meta.json", 0), ("printouts.txt", 401), ("errors.json", 201), ("vars.json", 107)]] := by decide

end Props.C09
