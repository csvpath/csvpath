/-
  C12 — Named-paths groups round-trip and select by identity.
-/
import Model.PathsStore
import Proofs.PathsStore

namespace Props.C12
open Model.Paths Proofs.Paths

/-- each returned piece is its csvpath up to surrounding blank lines, in the same order -/
theorem c12_pieces_shape (ps : List Str) :
    (pieces ps).length = ps.length ∧
    ∀ i (h : i < ps.length), ∃ tail, (tail = nl2 ∨ tail = []) ∧
      (pieces ps)[i]? = some (nl2 ++ ps[i] ++ tail) := by
  induction ps with
  | nil => exact ⟨rfl, fun i h => by simp at h⟩
  | cons p r ih =>
    cases r with
    | nil =>
      refine ⟨rfl, ?_⟩
      intro i h
      have : i = 0 := by simp at h; omega
      subst this
      exact ⟨[], Or.inr rfl, by simp [pieces]⟩
    | cons p' r' =>
      refine ⟨by simp [pieces, ih.1], ?_⟩
      intro i h
      cases i with
      | zero => exact ⟨nl2, Or.inl rfl, by simp [pieces]⟩
      | succ j =>
        obtain ⟨tail, ht, he⟩ := ih.2 j (by simpa using h)
        exact ⟨tail, ht, by simpa [pieces] using he⟩

/-- Round trip of the group file: for every non-empty list of csvpaths none of which is blank or
    contains the marker (any other text: outer comments, inner comments, newlines, brackets),
    `_get_named_paths (_str_from_list ps)` returns the same csvpaths in the same order, each with
    only blank lines added around it. -/
theorem c12_roundtrip (ps : List Str) (hne : ps ≠ []) (hc : ∀ p ∈ ps, Clean p)
    (hb : ∀ p ∈ ps, allBlank p = false) :
    getNamedPaths (strFromList ps) = pieces ps := by
  rw [getNamedPaths, split_strFromList ps hne hc, List.filter_cons_of_neg (by decide),
    List.filter_eq_self]
  -- the first piece, the blank lines before the first marker, is dropped; the others hold a
  -- csvpath each (`c12_pieces_shape`) and are kept
  intro q hq
  obtain ⟨i, hi, rfl⟩ := List.getElem_of_mem hq
  obtain ⟨hl, hs⟩ := c12_pieces_shape ps
  obtain ⟨tail, -, he⟩ := hs i (hl ▸ hi)
  rw [List.getElem?_eq_getElem hi, Option.some.injEq] at he
  have hp : allBlank ps[i] = false := hb _ (List.getElem_mem (hl ▸ hi))
  simp only [allBlank] at hp ⊢
  simp [he, List.all_append, hp]

/-- selection by identity: `name#id` returns the member whose identity is `id`; for unique
    identities `:to` is the prefix of the group ending at it and `:from` the suffix starting at
    it, and together they cover the group with the member counted once in each. -/
theorem c12_select (g : Identified) (ident : Str) (pre post : Identified) (p : Str)
    (hg : g = pre ++ (ident, p) :: post) (hpre : ∀ x ∈ pre, (x.1 == ident) = false) :
    findOne g ident = some p ∧
    getTo g ident = pre.map (·.2) ++ [p] ∧
    getFrom g ident = p :: post.map (·.2) := by
  subst hg
  induction pre with
  | nil => simp [findOne, getTo, getFrom]
  | cons x xs ih =>
    obtain ⟨i, q⟩ := x
    obtain ⟨hx, hpre⟩ := List.forall_mem_cons.mp hpre
    have ih' := ih hpre
    simp only [findOne, getTo, getFrom, List.cons_append, List.find?_cons, hx, Bool.false_eq_true,
      if_false, List.map_cons] at ih' ⊢
    exact ⟨ih'.1, by rw [ih'.2.1], ih'.2.2⟩

def collapse {δ : Type} [DecidableEq δ] : List δ → List δ
  | [] => []
  | [x] => [x]
  | x :: y :: r => if x = y then collapse (y :: r) else x :: collapse (y :: r)

/-- the group's manifest gains one entry per change of the group file and none for an identical
    re-add: over any history of fingerprints written, the manifest is the history with adjacent
    repeats collapsed -/
theorem c12_manifest {δ : Type} [DecidableEq δ] (fs : List δ) :
    fs.foldl manifestAdd [] = collapse fs := by
  have gen : ∀ (fs init : List δ) (x : δ),
      fs.foldl manifestAdd (init ++ [x]) = init ++ collapse (x :: fs) := by
    intro fs
    induction fs with
    | nil => intro init x; rfl
    | cons f r ih =>
      intro init x
      rw [List.foldl_cons, manifestAdd_concat, collapse]
      by_cases h : x = f
      · rw [if_pos h, if_pos h, h]; exact ih init f
      · rw [if_neg h, if_neg h, ih, List.append_assoc]; rfl
  cases fs with
  | nil => rfl
  | cons f r => exact gen r [] f

/-- identity precedence: id > Id > ID > name > Name > NAME -/
theorem c12_identity_precedence (v w : Option Str) :
    identityOf [("name".toList, w), ("id".toList, v)] = v ∧
    identityOf [("NAME".toList, w), ("Name".toList, v)] = v ∧
    identityOf [("Name".toList, w), ("ID".toList, v)] = v ∧
    identityOf ([] : List (Str × Option Str)) = some [] := by
  simp [identityOf]

/-! Non-vacuity: a two-member group with comments, brackets and newlines round-trips -/
example : getNamedPaths (strFromList ["~ id: a ~ $[*][yes()\n #1 -> @x = 2]".toList, "$[1-3][~c~ no()]".toList]) =
    ["\n\n~ id: a ~ $[*][yes()\n #1 -> @x = 2]\n\n".toList, "\n\n$[1-3][~c~ no()]".toList] := by
  -- spares `decide` the UTF-8 decoding of the literals
  repeat rw [String.toList_ofList]
  decide

end Props.C12
