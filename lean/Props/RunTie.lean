import Generated.CoreConsiderLine
import Model.RunLoop
import Proofs.BridgeConsiderLine
import Proofs.RunLoop
/-! Tie (T) for the run loop (C13, and through the run-loop theorems C01, C02, C03, C07, C15): the Lean translation of
    `CsvPath._consider_line`, with `raise_match_count_if`, `stop` and `LineMonitor.is_last_line_and_blank`
    (Generated/CoreConsiderLine.lean, written anew on every run, heap mode), computes `Model.Run.considerLine`.

    The matcher is the opaque call `self.matches(line)`: any function of the environment that keeps
    `Proofs.BridgeConsiderLine.Contract` (returns a value; leaves `scan_count`, `_current_match_count` and the fields the
    method only reads alone; leaves booleans in `stopped`/`is_valid`/`_freeze_path` and naturals in
    `advance_count`/`match_count`).  The scanner's `includes`/`is_last` are questions to the world, assumed to answer as
    `Model.Scan.includes`/`isLast` do (which `Props.C02Tie` proves of their translated source).  Of the fields the method only reads
    (`ReadOnly`), `skip_blank_lines` is taken as True. -/
namespace Props.RunTie
open Model.Run Model.Scan Proofs.BridgeConsiderLine

/-- For every scan part, return mode, record (blank or not), line number, loop state and contract-keeping matcher: run on
    the environment of the loop state, the translated `_consider_line` returns the model's verdict and leaves exactly the
    environment of the model's next loop state. -/
theorem consider_line_source_is_model (ext : Py.Ext) (scan : St) (cwnm : Bool) (endIdx : Option Nat) (i : Nat) (r : Rec)
    (st : LoopSt Py.Env) (effs : List Py.Eff) (hC : Contract ext scan endIdx i) (hro : ReadOnly st.ms cwnm endIdx i) :
    okVE (Generated.ConsiderLine.CsvPath._consider_line ext (envOf endIdx i st) (lineV r) effs) =
        some (.bool (considerLine (sem ext) scan cwnm endIdx i r st).1,
              envOf endIdx i (considerLine (sem ext) scan cwnm endIdx i r st).2) ∧
      ReadOnly (considerLine (sem ext) scan cwnm endIdx i r st).2.ms cwnm endIdx i := by
  -- run along the model's own case distinctions (blank last line, blank, outside the scan, advancing, matcher called); what is left in
  -- each is closed once the last scanned line, the matcher's answer, the return mode and whether the match count was raised are fixed
  refine ⟨?_, considerLine_readOnly ext scan cwnm endIdx i r st hC hro⟩
  have hcall := call_matches ext scan endIdx i hC
  simp only [py_core, envOf]
  -- the test for the blank last line, whatever helper computes it
  generalize hc : Py.H.val _ = c
  have hcv : c = .bool (endIdx == some i && r.isEmpty) := by
    rw [← hc]
    cl_norm [(hro.recon _ _).lineNo', (hro.recon _ _).endNo]
    generalize (endIdx == some i) = a
    generalize r.isEmpty = b
    cases endIdx <;> cases a <;> cases b <;> rfl
  subst hcv
  simp only [considerLine, considerCore]
  by_cases hbl : (endIdx == some i && r.isEmpty) = true
  · cl_norm [hbl, hcall]
    -- the model tells its matcher "blank last line" in a field of the context the CsvPath object does not have (`recon_bl`)
    simp only [callMatcher, sem, freeze, mkCtx, recon_bl, okVE, decide?]
  cl_norm [hbl, (hro.recon _ _).skipBlank]
  by_cases hr : r.isEmpty = true
  · cl_norm [hr, okVE, decide?]
  cl_norm [hr, (hro.recon _ _).lineNo, hC.includes]
  by_cases hinc' : includes scan i = true
  · cl_norm [hinc']
    by_cases hadv : 0 < st.fl.advance
    · rw [show advanceOrMatch (sem ext) endIdx i r (offer i st) = (false, decAdvance (offer i st)) from if_pos hadv]
      cl_norm [hadv, decide_true, sub_one _ hadv, (hro.recon _ _).cwnm, (hro.recon _ _).lineNo, hC.isLast, beq_true, markStop]
      cases isLast scan endIdx i <;> cases cwnm <;> rfl
    · rw [show advanceOrMatch (sem ext) endIdx i r (offer i st) = callMatcher (sem ext) endIdx i false r (offer i st) from
        if_neg hadv]
      have hnv := hC.value [lineV r] (recon (mkCtx i endIdx false (offer i st)) st.ms st.fl)
      have hroO := hC.readOnly [lineV r] _ cwnm (hro.recon (mkCtx i endIdx false (offer i st)) st.fl)
      cl_norm [hadv, decide_false, hcall, callMatcher, sem, mkCtx, offer] at hnv hroO ⊢
      generalize ext "matches" [lineV r] _ = out at hnv hroO ⊢
      obtain ⟨v', ms'⟩ := out
      obtain ⟨_, rfl, hnv⟩ := hnv
      cl_norm [(hroO.recon _ _).cwnm, (hroO.recon _ _).lineNo, hC.isLast, hnv, Py.is_bool hnv]
      cases hL : isLast scan endIdx i <;> cases hv : Py.isb v' (.bool true) <;> cases cwnm <;>
        cases hmc : (st.fl.matchCount == (flagsOf ms').matchCount) <;>
        cl_norm [(hroO.recon _ _).cwnm, okVE, markStop, conclude, raiseMatchCountIf, hL, hv, hmc, decide?] <;> rfl
  · cl_norm [hinc', okVE, decide?]

/-- C13 (advance), of the translated source: while `advance_count` is positive a scanned line is answered False (True under
    return-mode no-matches), the matcher is not called, and the count goes down by one. -/
theorem advance_source (ext : Py.Ext) (scan : St) (endIdx : Option Nat) (i : Nat) (x : String) (xs : List String)
    (st : LoopSt Py.Env) (effs : List Py.Eff) (hC : Contract ext scan endIdx i) (hro : ReadOnly st.ms false endIdx i)
    (hinc : includes scan i = true) (hadv : 0 < st.fl.advance) :
    ∃ env', okVE (Generated.ConsiderLine.CsvPath._consider_line ext (envOf endIdx i st) (lineV (x :: xs)) effs) =
        some (.bool false, env') ∧ env' "self.advance_count" = natV (st.fl.advance - 1) ∧
        env' "self.scan_count" = natV (st.scanCount + 1) ∧ env' "self.match_count" = natV st.fl.matchCount := by
  obtain ⟨h, _⟩ := consider_line_source_is_model ext scan false endIdx i (x :: xs) st effs hC hro
  have hb : (considerLine (sem ext) scan false endIdx i (x :: xs) st).1 = false := by
    cases hL : isLast scan endIdx i <;>
      simp [considerLine, considerCore, hinc, advanceOrMatch, offer, hadv, conclude, markStop, hL, decide?]
  rw [hb] at h
  refine ⟨_, h, ?_, ?_, ?_⟩ <;>
    cases hL : isLast scan endIdx i <;>
    simp [envOf, considerLine, considerCore, hinc, advanceOrMatch, hadv, conclude, markStop, offer, decAdvance, mkCtx, recon, hL]

end Props.RunTie
