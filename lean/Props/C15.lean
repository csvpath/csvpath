/-
  C15 — Comment mode settings take effect; matched and unmatched partition the file.
  Run-loop clauses (parametric in the matcher) and the metadata scanner clause.
-/
import Model.RunLoop
import Proofs.RunLoop
import Model.Metadata
import Proofs.Metadata
import Proofs.MetaFields

namespace Props.C15
open Model.Scan Model.Run Proofs.Run

variable {σ : Type}

/-- `return-mode: no-matches` vs the default: the matcher is called on the same records with the
    same states (the final loop states are equal), the default mode yields exactly the offered
    records that matched, no-matches yields exactly the offered records that did not, and those
    two lists partition the offered (scanned) records, order preserved. -/
theorem c15_complement (m : MatcherSem σ) (scan : St) (cfg : Cfg) (hw : cfg.willRun = true)
    (recs : List Rec) (ms : σ) :
    let d := nextRun m scan { cfg with cwnm := false } recs { ms := ms }
    let n := nextRun m scan { cfg with cwnm := true } recs { ms := ms }
    n.2.1 = d.2.1 ∧
    d.2.2.yielded = d.2.1.matched ∧
    n.2.2.yielded = d.2.1.declined ∧
    d.2.1.matched.Sublist d.2.1.offered ∧ d.2.1.declined.Sublist d.2.1.offered ∧
    (∀ j ∈ d.2.1.offered, (j ∈ d.2.1.matched ↔ j ∉ d.2.1.declined)) ∧
    d.1 = d.2.2.yielded.map (fun j => recs.getD j []) ∧
    n.1 = n.2.2.yielded.map (fun j => recs.getD j []) := by
  rw [nextRun_run (cfg := { cfg with cwnm := false }) hw, nextRun_run (cfg := { cfg with cwnm := true }) hw]
  intro d n
  have hst : n.2.1 = d.2.1 := runFrom_cwnm_state
  have hinv : Inv _ d.2.1 := runFrom_Inv (Inv_init ms)
  exact ⟨hst, runFrom_yielded rfl, (runFrom_yielded rfl).trans (congrArg (·.declined) hst), hinv.msub, hinv.dsub, hinv.part,
    runFrom_lines_yielded, runFrom_lines_yielded⟩

/-- `unmatched-mode: keep` under `collect()`: the collected lines and the unmatched lines
    together are exactly the records read (positions 0 … seen-1), each once, each list in file
    order; blank records and records outside the scan are among the unmatched. -/
theorem c15_partition (m : MatcherSem σ) (scan : St) (cfg : Cfg) (hw : cfg.willRun = true)
    (hk : cfg.unmatchedAvail = true) (recs : List Rec) (st : LoopSt σ) :
    let c := collectRun m scan cfg recs st
    c.2.2.seen ≤ recs.length ∧
    (∀ j, j < c.2.2.seen → (j ∈ c.2.2.yielded ↔ j ∉ c.2.2.unmatchedIdx)) ∧
    (∀ j ∈ c.2.2.yielded, j < c.2.2.seen) ∧ (∀ j ∈ c.2.2.unmatchedIdx, j < c.2.2.seen) ∧
    c.2.2.yielded.Pairwise (· < ·) ∧ c.2.2.unmatchedIdx.Pairwise (· < ·) ∧
    c.1 = c.2.2.yielded.map (fun j => recs.getD j []) ∧
    c.2.2.unmatched = c.2.2.unmatchedIdx.map (fun j => recs.getD j []) := by
  rw [collectRun_run hw, hk]
  obtain ⟨n, hn, h⟩ := runFrom_AccInv m scan cfg.cwnm true (endIdxOf recs) none recs st
  intro c
  rw [h.seen]
  exact ⟨hn, h.part rfl, h.ys.2, h.us.2, h.ys.1, h.us.1, h.lines, h.unm⟩

/-- `run-mode: no-run`: the matcher is never called, nothing is returned, no record is read -/
theorem c15_norun (m : MatcherSem σ) (scan : St) (cfg : Cfg) (hw : cfg.willRun = false)
    (budget : Option Nat) (recs : List Rec) (st : LoopSt σ) :
    runWith m scan cfg budget recs st = ([], finalize st, {}) :=
  runWith_norun hw

/-- Metadata clause, removal of the outer comment: for any outer comment free of `~ [ ] $`
    (any other characters, any Unicode classification), any layout between the comment and the
    csvpath, and any csvpath text that starts with `$` and ends with `]` (inner `~…~` comments,
    brackets, references included), the csvpath — scan part and match part — is returned
    unchanged and the comment text is returned whole to the field scanner. -/
theorem c15_extract (t1 t2 dollar rb : Model.Meta.MChar) (k w body : Model.Meta.MStr)
    (ht1 : t1.c = '~') (ht2 : t2.c = '~') (hd : dollar.c = '$') (hr : rb.c = ']')
    (hk : ∀ x ∈ k, Proofs.Meta.plain x = true) (hw : ∀ x ∈ w, Proofs.Meta.plain x = true) :
    Model.Meta.extract ([t1] ++ k ++ [t2] ++ w ++ [dollar] ++ body ++ [rb]) = ([dollar] ++ body ++ [rb], k) := by
  have e : [t1] ++ k ++ [t2] ++ w ++ [dollar] ++ body ++ [rb] =
      t1 :: (k ++ t2 :: (w ++ dollar :: (body ++ [rb]))) := by simp
  rw [Model.Meta.extract, e, Proofs.Meta.go_comment t1 t2 k w ht1 ht2 hk hw, Proofs.Meta.go_path dollar rb body _ hd hr]
  simp

theorem c15_extract_no_comment (dollar rb : Model.Meta.MChar) (body : Model.Meta.MStr)
    (hd : dollar.c = '$') (hr : rb.c = ']') :
    Model.Meta.extract ([dollar] ++ body ++ [rb]) = ([dollar] ++ body ++ [rb], []) := by
  simpa [Model.Meta.extract] using Proofs.Meta.go_path dollar rb body [] hd hr

def evenIdx : MatcherSem Nat where
  eval ctx _ s fl := (ctx.idx % 2 == 0, s + 1, fl)

example : (nextRun evenIdx { all := true } { cwnm := true } [["a"], ["b"], [], ["c"]] { ms := 0 }).1 = [["b"], ["c"]] := by
  decide
example : (collectRun evenIdx { all := true } { unmatchedAvail := true } [["a"], ["b"], [], ["c"]] { ms := 0 }).2.2.unmatchedIdx
    = [1, 2, 3] := by decide

/-- **fields**: an outer comment made of free text (no colon, ending in white space) followed by
    `key: value` fields — keys of word characters, values of any characters but a colon that do
    not begin or end with white space, fields separated by white space, keys distinct — yields
    exactly those fields in `metadata`, in order, values trimmed. `isalnum`/`isspace` are whatever
    Python says for each character (they are part of `MChar`). -/
theorem c15_fields (colon : Model.Meta.MChar) (hc : colon.c = ':') (free : Model.Meta.MStr)
    (fs : List Proofs.MetaFields.Field) (hfree : Proofs.MetaFields.FreeOK free)
    (hwf : ∀ f ∈ fs, Proofs.MetaFields.WFField f) (hsep : Proofs.MetaFields.Separated fs)
    (hnd : (fs.map (·.key)).Nodup) :
    Model.Meta.collect (free ++ Proofs.MetaFields.render colon fs) = fs.map (fun f => (f.key, some f.val)) := by
  rw [Proofs.MetaFields.collect_dict colon hc free fs hfree hwf hsep,
    Proofs.MetaFields.foldl_dictSet _ [] (by simpa [Function.comp_def] using hnd), List.nil_append]

/-! Non-vacuity: `note id: x1 description: two words` -/
section demo
open Model.Meta
private def ch (c : Char) : MChar := { c := c, alnum := c.isAlphanum, space := c == ' ' || c == '\n' }
private def str (s : String) : MStr := s.toList.map ch

example : collect (str "note id: x1 description: two words") =
    [(str "id", some (str "x1")), (str "description", some (str "two words"))] := by
  -- spares `decide` the UTF-8 decoding of the literals
  unfold str
  repeat rw [String.toList_ofList]
  decide

example : Proofs.MetaFields.WFField { key := str "id", ws := str " ", val := str "x1", sep := str " " } :=
  { key_ne := by decide, key_ok := by decide, ws_ok := by decide, val_ok := by decide,
    val_head := ⟨ch 'x', [ch '1'], rfl, by decide⟩, sep_ok := by decide, strip_val := by decide, strip_key := by decide }
end demo

end Props.C15
