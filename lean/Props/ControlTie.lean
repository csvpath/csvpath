import Generated.CoreControl
import Model.ControlTop
import Model.Interp
import Proofs.BridgeControl

/-! Tie (T) for the control functions (C13, C04): the Lean translation of `Stop._decide_match` (with `Stopper._stop_me` and
    `CsvPath.stop`), `Skip._decide_match` (with `Skipper._skip_me`) and `Fail._decide_match` (Generated/CoreControl.lean, written anew on every run) computes
    `Model.ControlTop.stopFn`, `skipFn`, `failFn`.  The condition of `stop(cond)`/`skip(cond)` is the opaque call
    `self.children[0].matches(skip=skip)`: any function of the environment that keeps `Proofs.BridgeControl.Contract`.  The
    interpreter model's cases for these functions are the same definitions over its state. -/
namespace Props.ControlTie
open Model.ControlTop Proofs.BridgeControl
open Proofs.BridgeMatches (Clean okVE)

/-- `Stop._decide_match` serves `stop` and `fail_and_stop` (`nm`), with a condition or without (`n` children): `stopFn` -/
theorem stop_source_is_model (ext : Py.Ext) (e : Py.Env) (skip : Py.V) (effs : List Py.Eff) (n : Nat) (nm : String) (d o o' : Bool)
    (hC : Contract ext) (hcl : Clean e) (hskip : Py.isExc skip = false) (hf : Facts e n nm d o o') :
    okVE (Generated.Control.Stop._decide_match ext e skip effs) =
      some (.none, stopFn (world ext skip d) (n == 1) (nm == "fail_and_stop") e) := by
  obtain ⟨f1, f2, f3, f4, f5⟩ := hf
  obtain ⟨g1, g2, g3, g4, g5⟩ := hC.facts [skip] e n nm d o o' ⟨f1, f2, f3, f4, f5⟩
  have hcl2 := hC.clean "child_matches" [skip] e hcl
  simp only [py_core, f1, Py.eq_one, py_eval, stopFn, Py.upd_other, String.reduceEq, not_false_eq_true]
  by_cases hn : (n == 1) = true
  · simp only [hn, Py.H.call_ok [skip] (Py.firstExc_one hskip) (hC.value _ _ _), Py.is_bool (hC.value _ _ _), py_eval, world]
    by_cases hb : Py.isb (ext "child_matches" [skip] e).1 (.bool true) = true
    · cases hnm : nm == "fail_and_stop" <;>
        simp only [hb, hnm, hcl2 _, g2, g3, py_eval, Py.upd_other, String.reduceEq, not_false_eq_true, fire] <;>
        rfl
    · simp only [hb, py_eval, g3]
      rfl
  · cases hnm : nm == "fail_and_stop" <;>
      simp only [hn, hnm, py_eval, hcl _, f2, f3, Py.upd_other, String.reduceEq, not_false_eq_true, fire, world] <;>
      rfl

/-- `Skip._decide_match`, with a condition or without; `o'` is what `do_once()` answers: `skipFn` -/
theorem skip_source_is_model (ext : Py.Ext) (e : Py.Env) (skip : Py.V) (effs : List Py.Eff) (n : Nat) (nm : String) (d o o' : Bool)
    (hC : Contract ext) (hcl : Clean e) (hskip : Py.isExc skip = false) (hf : Facts e n nm d o o') :
    okVE (Generated.Control.Skip._decide_match ext e skip effs) = some (.none, skipFn (world ext skip d) (n == 1) o' e) := by
  obtain ⟨f1, f2, f3, f4, f5⟩ := hf
  obtain ⟨g1, g2, g3, g4, g5⟩ := hC.facts [skip] e n nm d o o' ⟨f1, f2, f3, f4, f5⟩
  have hcl2 := hC.clean "child_matches" [skip] e hcl
  simp only [py_core, f1, f5, Py.eq_one, py_eval, skipFn, Py.upd_other, String.reduceEq, not_false_eq_true]
  cases o'
  · simp only [py_eval, f3]
    rfl
  by_cases hn : (n == 1) = true
  · simp only [hn, Py.H.call_ok [skip] (Py.firstExc_one hskip) (hC.value _ _ _), Py.is_bool (hC.value _ _ _), py_eval, world]
    by_cases hb : Py.isb (ext "child_matches" [skip] e).1 (.bool true) = true
    · cases o <;>
        simp only [hb, g3, g4, hcl2 _, py_eval, Py.upd_other, String.reduceEq, not_false_eq_true] <;> rfl
    · simp only [hb, py_eval, g3]
      rfl
  · cases o <;>
      simp only [hn, f3, f4, hcl _, py_eval, Py.upd_other, String.reduceEq, not_false_eq_true, world] <;> rfl

/-- `Fail._decide_match` is `failFn`; of `Facts` it needs `dflt` alone -/
theorem fail_source_is_model (ext : Py.Ext) (e : Py.Env) (skip : Py.V) (effs : List Py.Eff) (n : Nat) (nm : String) (d o o' : Bool)
    (hf : Facts e n nm d o o') :
    okVE (Generated.Control.Fail._decide_match ext e skip effs) = some (.none, failFn (world ext skip d) e) := by
  simp only [py_core, py_eval, Py.upd_other, String.reduceEq, not_false_eq_true, hf.dflt]
  rfl

/-- C13 (stop with a condition), of the translated source: the run is stopped exactly when the condition answers True; otherwise the
    flags are those the condition left. `fail_and_stop` fails the file exactly when it stops. -/
theorem c13_stop_cond_source (ext : Py.Ext) (e : Py.Env) (skip : Py.V) (effs : List Py.Eff) (nm : String) (d o o' : Bool)
    (hC : Contract ext) (hcl : Clean e) (hskip : Py.isExc skip = false) (hf : Facts e 1 nm d o o') :
    ∃ env', okVE (Generated.Control.Stop._decide_match ext e skip effs) = some (.none, env') ∧
      (Py.isb (ext "child_matches" [skip] e).1 (.bool true) = true →
        env' "self.matcher.csvpath.stopped" = .bool true ∧
        (nm = "fail_and_stop" → env' "self.matcher.csvpath.is_valid" = .bool false) ∧
        (¬ nm = "fail_and_stop" → env' "self.matcher.csvpath.is_valid" = (ext "child_matches" [skip] e).2 "self.matcher.csvpath.is_valid")) ∧
      (Py.isb (ext "child_matches" [skip] e).1 (.bool true) = false →
        env' "self.matcher.csvpath.stopped" = (ext "child_matches" [skip] e).2 "self.matcher.csvpath.stopped" ∧
        env' "self.matcher.csvpath.is_valid" = (ext "child_matches" [skip] e).2 "self.matcher.csvpath.is_valid") := by
  refine ⟨_, stop_source_is_model ext e skip effs 1 nm d o o' hC hcl hskip hf, ?_, ?_⟩
  · intro h
    by_cases hnm : nm = "fail_and_stop" <;> simp [stopFn, fire, world, Py.upd, h, hnm]
  · intro h
    simp [stopFn, world, Py.upd, h]

/-- C04 (fail), of the translated source: `fail()` clears the verdict, whatever else is the case. -/
theorem c04_fail_source (ext : Py.Ext) (e : Py.Env) (skip : Py.V) (effs : List Py.Eff) (n : Nat) (nm : String) (d o o' : Bool)
    (hf : Facts e n nm d o o') :
    ∃ env', okVE (Generated.Control.Fail._decide_match ext e skip effs) = some (.none, env') ∧
      env' "self.matcher.csvpath.is_valid" = .bool false := by
  refine ⟨_, fail_source_is_model ext e skip effs n nm d o o' hf, ?_⟩
  simp [failFn, world, Py.upd]

/-! ### the interpreter model's cases are instances -/
open Model.Interp in
def interpWorld (fuel : Nat) (env : Model.Interp.Env) (a : Model.Interp.Node) : World Model.Interp.ES where
  evalChild s := ((evalM fuel env a s).1 == some true, (evalM fuel env a s).2)
  setStopped s := emit s .stop
  setInvalid s := emit s .invalid
  setSkip s := emit s .skip
  setMatch s := s

open Model.Interp in
theorem interp_stop_is_instance (fuel : Nat) (env : Model.Interp.Env) (id : Nat) (q : List String) (a : Model.Interp.Node)
    (s : Model.Interp.ES) (fas : Bool) :
    decideFn (fuel + 1) env id (if fas then "fail_and_stop" else "stop") q [a] s =
      (some env.dm, stopFn (interpWorld fuel env a) true fas s) ∧
    decideFn (fuel + 1) env id (if fas then "fail_and_stop" else "stop") q [] s =
      (some env.dm, stopFn (interpWorld fuel env a) false fas s) := by
  cases fas <;> refine ⟨?_, ?_⟩ <;> unfold decideFn <;>
    simp only [String.reduceBEq, Bool.or_self, Bool.or_false, Bool.or_true, Bool.false_eq_true, ↓reduceIte, List.contains_cons,
      List.contains_nil, stopFn, fire, interpWorld]

open Model.Interp in
theorem interp_skip_is_instance (fuel : Nat) (env : Model.Interp.Env) (id : Nat) (q : List String) (a : Model.Interp.Node)
    (s : Model.Interp.ES) (hq : q.contains "once" = false) :
    decideFn (fuel + 1) env id "skip" q [a] s = (some env.dm, skipFn (interpWorld fuel env a) true true s) ∧
    decideFn (fuel + 1) env id "skip" q [] s = (some env.dm, skipFn (interpWorld fuel env a) false true s) := by
  refine ⟨?_, ?_⟩ <;> unfold decideFn <;>
    simp only [String.reduceBEq, Bool.or_self, Bool.false_eq_true, ↓reduceIte, List.contains_cons, List.contains_nil, skipFn,
      interpWorld, hq]
  -- left, of the first part: one and the same `if` on both sides, but the `Decidable` instance of its test on the right still mentions
  -- `(interpWorld fuel env a).evalChild s`, where simp does not unfold; `rfl` does
  rfl

open Model.Interp in
theorem interp_fail_is_instance (fuel : Nat) (env : Model.Interp.Env) (id : Nat) (q : List String) (a : Model.Interp.Node)
    (s : Model.Interp.ES) :
    decideFn (fuel + 1) env id "fail" q [] s = (some env.dm, failFn (interpWorld fuel env a) s) := by
  unfold decideFn
  simp only [String.reduceBEq, Bool.or_self, Bool.false_eq_true, ↓reduceIte, List.contains_cons, List.contains_nil, failFn, interpWorld]

/-! non-vacuity: a `fail_and_stop(cond)` whose condition answers True and changes nothing -/
def exExt : Py.Ext := fun _ _ e => (.bool true, e)
def exEnv : Py.Env := fun k =>
  if k = "len(self.children)" then .int 1 else if k = "self.name" then .str "fail_and_stop"
  else if k = "self.default_match()" then .bool true else if k = "self.once" then .bool false
  else if k = "self.do_once()" then .bool true else .none
example : Contract exExt := ⟨fun _ _ _ => rfl, fun _ _ _ h => h, fun _ _ _ _ _ _ _ h => h⟩
example : Facts exEnv 1 "fail_and_stop" true false true := ⟨rfl, rfl, rfl, rfl, rfl⟩

end Props.ControlTie
