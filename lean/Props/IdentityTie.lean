import Generated.CoreIdentity
import Model.PathsStore
import Proofs.BridgeIdentity
import Props.C12
/-! Tie (T) for the identity of a csvpath (C12): the Lean translation of `CsvPath.identity` (Generated/CoreIdentity.lean, written anew on every run) computes
    `Model.Paths.identityOf` for every list of metadata fields (a field may hold None). -/
namespace Props.IdentityTie
open Model.Paths Proofs.BridgeIdentity

/-- `CsvPath.identity` is `identityOf`: six lookups in the code against six `match`es in the model, one `link` each -/
theorem identity_source_is_model (ext : Py.Ext) (fields : List (String × Option String)) (effs : List Py.Eff) :
    okV (Generated.Identity.CsvPath.identity ext (metaEnv fields) effs) = some (optV (identityOf (toM fields))) := by
  cases fields with
  | nil => rfl
  | cons f fs =>
    simp only [py_core, identityOf, metaEnv, String.reduceEq, ↓reduceIte, List.map_cons, py_eval]
    exact link _ _ _ _ _ _ (link _ _ _ _ _ _ (link _ _ _ _ _ _ (link _ _ _ _ _ _ (link _ _ _ _ _ _ (link _ _ _ _ _ _ rfl)))))

/-- C12 (identity precedence), of the translated source: `id` wins over `name`, `Name` over `NAME`, `ID` over `Name`; a csvpath
    without any of the six fields has the identity "". -/
theorem c12_identity_precedence_source (ext : Py.Ext) (v w : String) (effs : List Py.Eff) :
    okV (Generated.Identity.CsvPath.identity ext (metaEnv [("name", some w), ("id", some v)]) effs) = some (.str v) ∧
    okV (Generated.Identity.CsvPath.identity ext (metaEnv [("NAME", some w), ("Name", some v)]) effs) = some (.str v) ∧
    okV (Generated.Identity.CsvPath.identity ext (metaEnv [("Name", some w), ("ID", some v)]) effs) = some (.str v) ∧
    okV (Generated.Identity.CsvPath.identity ext (metaEnv [("description", some w)]) effs) = some (.str "") := by
  have h := Props.C12.c12_identity_precedence (some v.toList) (some w.toList)
  have f := fun {a b} (h : a = b) => congrArg (fun o => some (optV o)) h
  have hs : some (optV (some v.toList)) = some (Py.V.str v) := by rw [optV, String.ofList_toList]
  simp only [identity_source_is_model]
  exact ⟨(f h.1).trans hs, (f h.2.1).trans hs, (f h.2.2.1).trans hs, by simp [toM, identityOf, optV]⟩

end Props.IdentityTie
