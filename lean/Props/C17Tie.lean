import Generated.Facts
import Model.Match
/-!
Tie (T) for C17: the character classes of the match-part lexer are those of `LarkParser.GRAMMAR`
as it stands in /repo.
-/
namespace Props.C17Tie
open Model.Match

theorem variable_class : ∀ c, c < 128 → nameCh (Char.ofNat c) = Generated.matchVariableAscii.contains c := by decide +kernel
/-! `REFERENCE`, `HEADER` and the later characters of a function name have the class of `VARIABLE`: the tables read off the grammar are
    the same list, so one sweep serves the four -/
theorem reference_class : ∀ c, c < 128 → nameCh (Char.ofNat c) = Generated.matchReferenceAscii.contains c :=
  (show Generated.matchVariableAscii = Generated.matchReferenceAscii from rfl) ▸ variable_class
theorem header_class : ∀ c, c < 128 → nameCh (Char.ofNat c) = Generated.matchHeaderAscii.contains c :=
  (show Generated.matchVariableAscii = Generated.matchHeaderAscii from rfl) ▸ variable_class
theorem quoted_header_class : ∀ c, c < 128 → qhCh (Char.ofNat c) = Generated.matchQuotedHeaderAscii.contains c := by decide +kernel
theorem fn_first_class : ∀ c, c < 128 → (Char.ofNat c).isAlpha = Generated.matchFnFirstAscii.contains c := by decide +kernel
theorem fn_rest_class : ∀ c, c < 128 → nameCh (Char.ofNat c) = Generated.matchFnRestAscii.contains c :=
  (show Generated.matchVariableAscii = Generated.matchFnRestAscii from rfl) ▸ variable_class
theorem ws_class : ∀ c, c < 128 → isWS (Char.ofNat c) = Generated.wsAscii.contains c := by decide +kernel

end Props.C17Tie
