/-
  C08 — A csvpath gives the same results alone, in a serial run and breadth-first.
  Parametric in every member's matcher: the theorems hold for every group of csvpaths that do not
  use the cross-path signals.
-/
import Model.Group
import Proofs.Group

namespace Props.C08
open Model.Scan Model.Run Model.Group Proofs.Group

variable {σ : Type}

-- `hs` is not needed: the counter of stopped members may lag (`Proofs.Group.byLineFrom_members`)
set_option linter.unusedVariables false in
/-- Breadth-first = alone: after `next_by_line` / `collect_by_line` / `fast_forward_by_line` over
    any file, every member has exactly the loop state (matcher state = variables, printouts,
    errors; validity, stop state, counters) and exactly the collected lines it has after running
    alone over the same file (`soloFrom` — the member's own records until it stops), whatever the
    other members do and in whatever order the group lists them. -/
theorem c08_byline (members : List (Member σ)) (ifAll : Bool) (recs : List Rec) (inits : List (LoopSt σ))
    (hl : members.length = inits.length) (hs : ∀ s ∈ inits, s.fl.stopped = false) :
    (byLine members ifAll recs inits).2 =
      (members.zip inits).map (fun p => soloFrom p.1 (endIdxOf recs) 0 recs { st := p.2 }) := by
  unfold byLine
  rw [byLineFrom_members members (endIdxOf recs) ifAll recs 0 _ 0 (by simpa using hl) (Nat.zero_le _)]
  unfold soloAll
  rw [List.zip_map_right, List.map_map]
  rfl

/-- alone = `CsvPath.next()`/`collect()`: the solo fold is the standalone run (same lines, same
    final state up to the `finalize` the breadth-first run does not perform) -/
theorem c08_solo_is_standalone (mem : Member σ) (ku : Bool) (recs : List Rec) (st : LoopSt σ)
    (hs : st.fl.stopped = false) :
    (runFrom mem.m mem.scan mem.cwnm ku (endIdxOf recs) none 0 recs st {}).1 =
      (soloFrom mem (endIdxOf recs) 0 recs { st := st }).lines ∧
    (runFrom mem.m mem.scan mem.cwnm ku (endIdxOf recs) none 0 recs st {}).2.1 =
      finalize (soloFrom mem (endIdxOf recs) 0 recs { st := st }).st := by
  have := runFrom_solo mem ku (endIdxOf recs) 0 recs st {} [] hs
  exact ⟨by simpa using this.1, this.2⟩

def decisions (endIdx : Option Nat) (i : Nat) (r : Rec) (pairs : List (Member σ × MSt σ)) : List Bool :=
  (pairs.filter (fun p => !p.2.st.fl.stopped)).map (fun p => (memberStep p.1 endIdx i r p.2).1)

/-- what the caller of a breadth-first run gets for one record: the union of the decisions of
    the members still running (the intersection with `if_all_agree`) -/
theorem c08_union (endIdx : Option Nat) (ifAll : Bool) (i : Nat) (r : Rec) :
    ∀ (pairs : List (Member σ × MSt σ)) (keep : Bool) (cnt : Nat),
      (stepMembers endIdx ifAll i r pairs keep cnt).2.1 =
        (if ifAll then keep && (decisions endIdx i r pairs).all id
         else keep || (decisions endIdx i r pairs).any id) :=
  fun pairs keep cnt => (stepMembers_spec endIdx ifAll i r pairs keep cnt).2.1

/-! Non-vacuity: two members, the first stops at record 1; breadth-first equals alone -/
def stopAt (k : Nat) : MatcherSem Nat where
  eval ctx _ s fl := (true, s + 1, { fl with stopped := ctx.idx == k })

example : ((byLine [{ m := stopAt 1, scan := { all := true } }, { m := stopAt 9, scan := { all := true } }] false
    [["a"], ["b"], ["c"]] [{ ms := 0 }, { ms := 0 }]).2.map (fun x => (x.st.ms, x.lines.length))) = [(2, 2), (3, 3)] := by
  decide

end Props.C08
