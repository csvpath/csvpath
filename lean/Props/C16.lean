import Model.Print
import Spec.Print
import Proofs.Print
/-!
# C16 — print() emits its text verbatim with references replaced by current values

`c16_verbatim`: for every print string written from text chunks and references (class `WF`: plain
text characters; names as the grammar admits them; a character between two references; text right after an unquoted name
begins with a character that ends the name, else it would be read as more of the name) and for
every resolution of references to values, what print sends to the printers is exactly the chunks'
text with each reference replaced by its value.  The `..` escape prints one dot.

What the theorem does not cover is stated beside it: two references with nothing between them
(`c16_adjacent_fails`, known finding `adjacent-references`), the resolution of a reference against
the run's data (model `resolveEnv`, tied by correspondence), and which executions of print happen
(`onmatch`, `once`; oracle in the harness).
-/
namespace Props.C16
open Model.Print Spec.Print Proofs.Print

/-- what `c16_verbatim` rests on: `go` on the source with the blank `printString` appends.  A reference takes the
    character after it as its sentinel (`go_ref`): the first character of the next text chunk, or that blank. -/
theorem c16_go (resolve : Ref → Option (List Char)) :
    (t : List Chunk) → WF t →
      go resolve 0 (source false t ++ [' ']) = (expected resolve t).map (· ++ [' '])
  | [], _ => by
    simp [source, expected, go, isWS]
  | .lit s :: rest, ⟨_, hp, hr⟩ => by
    simp only [source, Bool.false_and, Bool.false_eq_true, if_false, List.append_assoc]
    rw [go_plain resolve s hp, c16_go resolve rest hr]
    simp only [expected]
    cases expected resolve rest <;> simp
  | [.ref r], h => by
    have := go_ref resolve r h ' ' [] (follows_of_not_simple _ (by decide))
    rw [show esc ' ' = [' '] from rfl, List.append_nil] at this
    simp only [source, List.append_nil, expected, this]
    cases resolve (refOf r) <;> simp [go]
  | .ref r :: .lit (c :: s) :: rest, ⟨hr, hend, _, hp, hrest⟩ => by
    have := go_ref resolve r hr c (s ++ (source false rest ++ [' '])) ((endsName_iff r c).mp (hend c rfl))
    rw [go_plain resolve s (List.forall_mem_cons.mp hp).2, c16_go resolve rest hrest] at this
    simp only [source_ref_lit, List.append_assoc, expected] at this ⊢
    rw [this]
    cases resolve (refOf r) <;> cases expected resolve rest <;> simp
  | .ref r :: .lit [] :: rest, ⟨_, _, hne, _⟩ => absurd rfl hne
  | .ref _ :: .ref _ :: _, h => absurd h (by simp [WF])

/-- **C16** (text and references): print sends exactly the text with the references replaced. -/
theorem c16_verbatim (resolve : Ref → Option (List Char)) (t : List Chunk) (h : WF t) :
    printString resolve (source false t) = expected resolve t := by
  unfold printString
  rw [c16_go resolve t h]
  cases expected resolve t with
  | none => rfl
  | some e => simp

theorem wfB_sound : (t : List Chunk) → wfB t = true → WF t
  | [], _ => trivial
  | .lit s :: rest, h => by
    simp only [wfB, Bool.and_eq_true, Bool.not_eq_true', List.all_eq_true, List.isEmpty_eq_false_iff] at h
    exact ⟨h.1.1, h.1.2, wfB_sound rest h.2⟩
  | [.ref r], h => wfRefB_sound r h
  | .ref r :: .lit s :: rest, h => by
    rw [wfB, Bool.and_eq_true, Bool.and_eq_true] at h
    refine ⟨wfRefB_sound r h.1.1, fun c hc => ?_, wfB_sound (.lit s :: rest) h.2⟩
    have := h.1.2
    rw [hc] at this
    unfold endsNameB at this
    unfold endsName
    cases hl : lastName r <;> simp_all
  | .ref _ :: .ref _ :: _, h => by simp [wfB] at h

/-- the form the driver evaluates: every generated print string for which `wfB` answers true is
    covered -/
theorem c16_verbatim_b (resolve : Ref → Option (List Char)) (t : List Chunk) (h : wfB t = true) :
    printString resolve (source false t) = expected resolve t :=
  c16_verbatim resolve t (wfB_sound t h)

/-! Non-vacuity: a string with adjacent punctuation, the dot escape, a quoted name and a tracking
value is in the class, and the theorem's conclusion is the intended text. -/
def demo : List Chunk :=
  [.ref ⟨.headers, .simple ['a'], none⟩, .lit [','], .ref ⟨.variables, .simple ['v'], some (.simple ['k'])⟩,
   .lit ['.', ' ', 'x', ' '], .ref ⟨.headers, .quoted ['a', ' ', 'b'], none⟩]

def demoResolve (r : Ref) : Option (List Char) := some ('<' :: r.name ++ ['>'])

example : WF demo := wfB_sound demo (by decide)

example : String.ofList (source false demo) = "$.headers.a,$.variables.v.k.. x $.headers.'a b'" := rfl
example : (printString demoResolve (source false demo)).map String.ofList = some "<a>,<v>. x <a b>" := rfl

/-- the part of the property that fails on the model and on the code alike: two references with
    nothing between them — the `$` of the second is taken as the sentinel of the first and the
    second is printed as text (known finding `adjacent-references`). -/
theorem c16_adjacent_fails :
    (printString demoResolve "$.headers.a$.headers.b".toList).map String.ofList = some "<a>$.headers.b" := by
  -- spares `decide` the UTF-8 decoding of the literals
  rw [String.toList_ofList]
  decide

end Props.C16
