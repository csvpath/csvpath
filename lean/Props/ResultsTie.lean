import Generated.CoreResults
import Proofs.BridgeResults
/-! Tie (T) for what a group's results say as a whole (C04, C20): the Lean translation of `ResultsManager.is_valid` and `has_lines`,
    with their loops over the results of the group (Generated/CoreResults.lean, written anew on every run). -/
namespace Props.ResultsTie
open Proofs.BridgeResults

/-- C04 (aggregation), of the translated source: for every group, `results_manager.is_valid(name)` is the conjunction of what the
    members' results say (`Result.is_valid` — the known finding result-valid-needs-start lives there, not here). -/
theorem c04_aggregate_source (ext : Py.Ext) (e : Py.Env) (vs : List Bool) (name : Py.V) (effs : List Py.Eff) (h : ShowsValid e vs) :
    Generated.Results.ResultsManager.is_valid ext e name effs = .ok (.bool (vs.all id)) e effs := by
  simp only [py_core, h.len, Py.H.forRange_nat]
  refine (search_loop e vs (fun b => !b) false true _ _ ?hb (fun _ _ => rfl) _ effs).trans ?_
  case hb =>
    intro idx hlt locs effs' next brk
    exact ⟨[], by simp only [h.valid idx hlt, py_eval]⟩
  · -- the loop answers "none is invalid"
    rw [List.all_eq_not_any_not]
    show _ = Py.H.Res.ok (.bool !(vs.any fun b => !b)) e effs
    cases vs.any fun b => !b <;> rfl

/-- C20: `has_lines(name)` holds exactly when some member of the group collected a line -/
theorem c20_has_lines_source (ext : Py.Ext) (e : Py.Env) (ls : List (List String)) (name : Py.V) (effs : List Py.Eff)
    (h : ShowsLines e ls) :
    Generated.Results.ResultsManager.has_lines ext e name effs = .ok (.bool (ls.any fun l => !l.isEmpty)) e effs := by
  simp only [py_core, h.len, Py.H.forRange_nat]
  refine (search_loop e ls (fun l => !l.isEmpty) true false _ _ ?hb (fun _ _ => rfl) _ effs).trans ?_
  case hb =>
    intro idx hlt locs effs' next brk
    refine ⟨[], ?_⟩
    simp only [h.lines idx hlt, py_eval]
    cases ls[idx] <;> rfl
  · cases ls.any fun l => !l.isEmpty <;> rfl

/-! non-vacuity: an environment showing a group of a valid and an invalid member -/
def exEnv : Py.Env := fun k =>
  if k = "len(results)" then .int 2
  else if k = Py.ikey "results" 0 ".is_valid" then .bool true else if k = Py.ikey "results" 1 ".is_valid" then .bool false
  else .none
example : ShowsValid exEnv [true, false] := by
  refine ⟨rfl, ?_⟩; intro i h; (have : i = 0 ∨ i = 1 := by simp at h; omega); rcases this with rfl | rfl <;> decide +revert

end Props.ResultsTie
