/-
  C11 — The named-files area is a versioned, content-addressed, immutable store.
  The hash function `H` is a parameter (SHA-256 is not modelled); contents are opaque.
-/
import Model.FileStore
import Spec.Stores
import Proofs.FileStore

namespace Props.C11
open Model.Files Proofs.Files

variable {κ δ : Type} [DecidableEq δ]

/-- the abstract specification's step for an operation -/
def specStep (H : κ → δ) (a : Spec.Files.Spec δ) : Op κ → Spec.Files.Spec δ
  | .add n src c => Spec.Files.add a n src (H c)
  | .remove n => Spec.Files.remove a n
  | .newInstance => a
  | .mutateSource _ _ => a

theorem abs_step (H : κ → δ) (s : Store κ δ) (op : Op κ) :
    abs (step H s op) = specStep H (abs s) op := by
  cases op with
  | add n src c =>
    simp only [step, specStep, add_eq, abs_setDir, Spec.Files.add, versions_abs, absDir_addDir]
    cases lookup s n <;> rfl
  | remove n => exact abs_remove s n
  | newInstance => rfl
  | mutateSource _ _ => rfl

/-- Refinement: after any sequence of operations (add / remove / new instance / edit of a source
    file), the manifests of the store are exactly the version lists of the abstract store — one
    entry per registration that changes the current version (different digest or different source
    file name) and none for a repeat. -/
theorem c11_refines (H : κ → δ) (ops : List (Op κ)) :
    abs (ops.foldl (step H) []) = ops.foldl (specStep H) [] :=
  (List.foldl_hom abs fun s op => (abs_step H s op).symm).symm

/-- `get_named_file(name)` is the abstract store's current version -/
theorem c11_get (H : κ → δ) (ops : List (Op κ)) (n : String) :
    Model.Files.get (ops.foldl (step H) []) n =
      (Spec.Files.current (ops.foldl (specStep H) []) n).map (fun v => (v.2, v.1)) := by
  rw [get_abs, c11_refines]

/-- content addressing: in every reachable state, the file `get_named_file(name)` names exists and
    its bytes hash to the fingerprint in its name (which is also the manifest's last fingerprint) -/
theorem c11_content_addressed (H : κ → δ) (ops : List (Op κ)) (n src : String) (h : δ)
    (hg : Model.Files.get (ops.foldl (step H) []) n = some (src, h)) :
    ∃ c, bytes (ops.foldl (step H) []) n = some c ∧ H c = h ∧
      fingerprint (ops.foldl (step H) []) n = some h :=
  (run_WF H ops).get_addressed hg

/-- the most recent registration wins: right after `add(name, src, c)` the bytes behind
    `get_named_file(name)` hash to `H c` (so they *are* `c` whenever `H` is injective on the
    contents of the history) -/
theorem c11_latest (H : κ → δ) (ops : List (Op κ)) (n src : String) (c : κ) :
    ∃ x, bytes ((ops ++ [Op.add n src c]).foldl (step H) []) n = some x ∧ H x = H c ∧
      Model.Files.get ((ops ++ [Op.add n src c]).foldl (step H) []) n = some (src, H c) := by
  have hg : Model.Files.get ((ops ++ [Op.add n src c]).foldl (step H) []) n = some (src, H c) := by
    rw [List.foldl_append]; exact get_add H _ n src c
  obtain ⟨x, hx, hh, -⟩ := (run_WF H _).get_addressed hg
  exact ⟨x, hx, hh, hg⟩

/-- immutability: a stored version keeps its bytes through every operation that is not the
    removal of its name -/
theorem c11_immutable (H : κ → δ) (s : Store κ δ) (op : Op κ) (n : String) (d : NameDir κ δ)
    (k : String × δ) (x : κ) (hl : lookup s n = some d) (hx : fileAt d k = some x)
    (hop : ∀ m, op = .remove m → m ≠ n) :
    ∃ d', lookup (step H s op) n = some d' ∧ fileAt d' k = some x := by
  cases op with
  | add m src c =>
    rw [step, add_eq, lookup_setDir]
    split
    · subst m
      exact ⟨_, rfl, by rw [hl]; exact addDir_keeps H d src c k x hx⟩
    · exact ⟨d, hl, hx⟩
  | remove m => exact ⟨d, by rw [step, lookup_remove, if_neg (hop m rfl), hl], hx⟩
  | newInstance => exact ⟨d, hl, hx⟩
  | mutateSource _ _ => exact ⟨d, hl, hx⟩

/-- a fresh CsvPaths instance and later edits of a source file leave the store as it is -/
theorem c11_fresh_instance_and_source_edits (H : κ → δ) (s : Store κ δ) (src : String) (c : κ) :
    step H s .newInstance = s ∧ step H s (.mutateSource src c) = s := ⟨rfl, rfl⟩

/-! Non-vacuity (contents are numbers, the "hash" is mod 10 — deliberately colliding) -/
example : Model.Files.get ([Op.add "f" "a.csv" 11, .add "f" "a.csv" 11, .add "f" "b.csv" 11, .add "f" "a.csv" 12].foldl
    (step (fun (c : Nat) => c % 10)) []) "f" = some ("a.csv", 2) := by decide
example : ((lookup ([Op.add "f" "a.csv" 11, .add "f" "a.csv" 11, .add "f" "b.csv" 11].foldl
    (step (fun (c : Nat) => c % 10)) []) "f").map (·.manifest.length)) = some 2 := by decide

end Props.C11
