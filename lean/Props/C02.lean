/-
  C02 — The scan part selects exactly the lines it denotes.
-/
import Model.Scan
import Spec.Scan
import Proofs.Scan
import Proofs.RunLoop

namespace Props.C02
open Model.Scan Spec.Scan Proofs.Scan Model.Run Proofs.Run

/-- Every scan part of class K parses, and the parsed scanner state has a closed description:
    either a `*`/`N*` state, a pending lone range, or `these` = exactly the denoted lines. -/
theorem c02_parse (k : K) (hk : k.WF) :
    ∃ s, parse k.toExpr = .ok s ∧ (∀ n, includes s n = k.den n) ∧
      (∀ e n, isLast s e n = match k.last? with
                              | some m => n == m
                              | none => e == some n) := by
  cases k with
  | all => exact ⟨{ all := true }, rfl, by simp [includes, K.den], by simp [isLast, K.last?]⟩
  | fromN m =>
    -- `elif not self.from_line`: a `from_line` of 0 counts as unset
    cases m with
    | zero => exact ⟨{ all := true }, rfl, by simp [includes, K.den], by simp [isLast, K.last?]⟩
    | succ m =>
      exact ⟨{ all := true, frm := some (m + 1) }, rfl, by simp [includes, K.den], by simp [isLast, K.last?]⟩
  | loneRange a b =>
    exact ⟨stA a b, by simp only [K.toExpr, parse_num, List.foldl_cons, minus_first]; rfl, includes_A a b,
      isLast_A a b⟩
  | list f r => exact parse_list f r hk

/-- the last line of a finite scan part is denoted and is the greatest denoted line:
    the scanner's own stop never precedes a denoted line -/
theorem c02_last_is_greatest (k : K) (hk : k.WF) (m : Nat) (h : k.last? = some m) :
    k.den m = true ∧ ∀ n, k.den n = true → n ≤ m :=
  last?_greatest hk h

/-- Run-level clause, for every file and every matcher that does not itself stop the run or
    advance: the records offered to the match part are exactly the denoted non-blank records, in
    file order, and `scan_count` is their number — for `next()`/`fast_forward()` and for
    `collect()`, in both return-modes, with or without `unmatched-mode: keep`.  (The scanner's own
    stop at `is_last` never cuts off a denoted record.) -/
theorem c02_offered {σ : Type} (k : K) (hk : k.WF) (m : MatcherSem σ) (hq : Quiet m) (cfg : Cfg)
    (hrun : cfg.willRun = true) (recs : List Rec) (ms : σ) :
    ∃ s, parse k.toExpr = .ok s ∧
      (runWith m s cfg none recs { ms := ms }).2.1.offered = Spec.Scan.offered k recs ∧
      (runWith m s cfg none recs { ms := ms }).2.1.scanCount = (Spec.Scan.offered k recs).length := by
  obtain ⟨s, hp, hinc, hlast⟩ := c02_parse k hk
  refine ⟨s, hp, ?_⟩
  have hl := none_after_last hk (N := recs.length) (hlast (endIdxOf recs))
    (by unfold endIdxOf; split <;> simp; omega)
  -- `scan_count` is the number of positions offered (`Inv.scan`), so the first clause gives the second
  rw [runWith_run hrun, (runFrom_Inv (Inv_init ms)).scan]
  suffices h : _ = Spec.Scan.offered k recs from ⟨h, congrArg _ h⟩
  exact runFrom_offered (fun ctx r s fl => (hq ctx r s fl).1) hinc hl (by simp) rfl

/-! Non-vacuity: concrete members of K satisfying the hypotheses, evaluated by the kernel. -/
example : (K.list (.range 0 3) [.line 9]).WF := by decide
example : (parse (K.list (.range 0 3) [.line 9]).toExpr).toOption.map (fun s => includes s 9) = some true := by
  decide
example : (parse (K.loneRange 3 0).toExpr).toOption.map (fun s => (isLast s (some 6) 0, isLast s (some 6) 3))
    = some (false, true) := by decide

end Props.C02
