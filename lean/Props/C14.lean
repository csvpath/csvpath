/-
  C14 — Assignment qualifiers decide the vote and the write per the documented table.
-/
import Model.Assign
import Spec.Assign
import Proofs.Assign

namespace Props.C14
open Model.Assign Proofs.Assign

/-- For all 256 qualifier subsets, all current values, all new values (unbounded ints, any
    strings, None), both answers of the rest of the line and both logic modes: what is written
    and what the assignment votes is what the documented decision list says.
    Hypotheses: `comparable` — Python can order the two values (no int against str), and
    `inQuantifier` — the new value is not a falsy non-None value (0, "") under increase/decrease
    (see `c14_outside_quantifier`). -/
theorem c14_table (q : Quals) (cur y : Val) (lm dm : Bool)
    (hc : comparable cur y = true) (hq : inQuantifier q y = true) :
    assign q cur y lm dm =
      .ok (Spec.Assign.assign q cur y (lm == dm) dm).1 (Spec.Assign.assign q cur y (lm == dm) dm).2 := by
  simp only [assign, latchAndOnchange_eq q dm cur y hc hq, spec_eq]
  cases q.onmatch <;> cases lm == dm <;> rfl

/-- latch never votes negative (unless onchange or another blocking qualifier is also set):
    with only `latch` (and optionally nocontrib/asbool off) the vote is the neutral one -/
theorem c14_latch_never_negative (cur y : Val) (lm dm : Bool) (hc : comparable cur y = true) :
    ∃ w, assign { latch := true } cur y lm dm = .ok w dm := by
  rw [c14_table _ _ _ _ _ hc rfl]
  refine ⟨_, congrArg _ ?_⟩
  simp only [spec_eq, latchSpec, guardSpec, Bool.false_and, Bool.true_and, Bool.or_false,
    Bool.false_eq_true, if_false]
  split
  · rfl
  · split <;> rfl

/-- nocontrib makes the vote neutral whatever the other qualifiers, values and line verdict -/
theorem c14_nocontrib_neutral (q : Quals) (hn : q.nocontrib = true) (cur y : Val) (lm dm : Bool)
    (hc : comparable cur y = true) (hq : inQuantifier q y = true) :
    ∃ w, assign q cur y lm dm = .ok w dm := by
  rw [c14_table _ _ _ _ _ hc hq]
  exact ⟨_, congrArg _ (by simp only [spec_eq, hn, if_true])⟩

-- `hc`, `hq` are not needed: the gate is decided before any value is looked at (`Proofs.Assign.assign_gate`, which gives the vote too)
set_option linter.unusedVariables false in
/-- onmatch gates everything: when the rest of the line does not match nothing is written -/
theorem c14_onmatch_gate (q : Quals) (ho : q.onmatch = true) (cur y : Val) (lm dm : Bool) (hl : lm ≠ dm)
    (hc : comparable cur y = true) (hq : inQuantifier q y = true) :
    ∃ v, assign q cur y lm dm = .ok none v :=
  ⟨_, assign_gate q ho cur y lm dm hl⟩

/-- the variable after one assignment of `ylm.1` on a line whose rest answers `ylm.2`: as the code decides -/
def stepModel (q : Quals) (dm : Bool) (cur : Val) (ylm : Val × Bool) : Val :=
  match assign q cur ylm.1 ylm.2 dm with
  | .ok (some v) _ => v
  | _ => cur

/-- … and as the documented decision list decides -/
def stepSpec (q : Quals) (dm : Bool) (cur : Val) (ylm : Val × Bool) : Val :=
  match (Spec.Assign.assign q cur ylm.1 (ylm.2 == dm) dm).1 with
  | some v => v
  | none => cur

/-- The value of `x` after any sequence of assignments is the fold of the documented decision, for
    any class `P` of pairwise comparable values: a step leaves the variable as it was or gives it
    the new value (`spec_write`), so every value it takes is in `P`. -/
theorem history_eq (P : Val → Prop) (hP : ∀ a b, P a → P b → comparable a b = true)
    (q : Quals) (dm : Bool) (ys : List (Val × Bool)) (cur : Val)
    (hq : ∀ y ∈ ys, inQuantifier q y.1 = true) (hys : ∀ y ∈ ys, P y.1) (hcur : P cur) :
    ys.foldl (stepModel q dm) cur = ys.foldl (stepSpec q dm) cur := by
  induction ys generalizing cur with
  | nil => rfl
  | cons y ys ih =>
    obtain ⟨hqy, hq⟩ := List.forall_mem_cons.mp hq
    obtain ⟨hy, hys⟩ := List.forall_mem_cons.mp hys
    have e : stepModel q dm cur y = stepSpec q dm cur y := by
      simp only [stepModel, stepSpec, c14_table q cur y.1 y.2 dm (hP _ _ hcur hy) hqy]
      cases (Spec.Assign.assign q cur y.1 (y.2 == dm) dm).1 <;> rfl
    rw [List.foldl_cons, List.foldl_cons, e]
    refine ih _ hq hys ?_
    unfold stepSpec
    rcases spec_write q cur y.1 (y.2 == dm) dm with h | h <;> rw [h]
    · exact hcur
    · exact hy

/-- … in particular along a history of ints and Nones -/
theorem c14_history (q : Quals) (dm : Bool) (ys : List (Val × Bool)) (cur : Val)
    (hq : ∀ y ∈ ys, inQuantifier q y.1 = true)
    (hint : (∀ y ∈ ys, ∃ i, y.1 = .int i ∨ y.1 = .none) ∧ (∃ i, cur = .int i ∨ cur = .none)) :
    ys.foldl (stepModel q dm) cur = ys.foldl (stepSpec q dm) cur :=
  history_eq (fun v => ∃ i, v = .int i ∨ v = .none)
    (by rintro _ _ ⟨_, rfl | rfl⟩ ⟨_, rfl | rfl⟩ <;> rfl) q dm ys cur hq hint.1 hint.2

/-- the hypothesis `inQuantifier` is needed: a first assignment of 0 under `increase` is blocked
    by the code although docs/qualifiers.md says the first set always works -/
theorem c14_outside_quantifier :
    assign { increase := true } .none (.int 0) true true = .ok none false ∧
    Spec.Assign.assign { increase := true } .none (.int 0) true true = (some (.int 0), true) := by
  decide

example : assign { onchange := true, notnone := true } (.int 2) (.int 3) true true = .ok (some (.int 3)) true := by decide
example : assign { latch := true, asbool := true } (.int 2) (.str "false") false true = .ok none false := by decide

end Props.C14
