import Generated.CoreMatches
import Model.MatchTop
import Proofs.BridgeMatches
import Proofs.MatchTop

/-! Tie (T) for the top level of a match (C01, C13): the Lean translation of `Matcher.matches`, with its `for` loop over the match
    components (Generated/CoreMatches.lean, written anew on every run, heap mode), computes `Model.MatchTop.matchLine`, of which the interpreter model's
    `matchLine` is an instance.

    The match components are the opaque calls `et[0].matches(skip=[])`: any functions of the environment that keep
    `Proofs.BridgeMatches.Contract` (they return a value, leave values in the environment, and leave the logic mode, the csvpath
    object and the `et[1]` marks of all components alone — that is, they do not use the onmatch look-ahead).  `clear_errors()` and
    `_do_lasts()` are opaque calls too.  So the statements below are about every csvpath of that kind, not about a function set. -/
namespace Props.MatchTie
open Model.MatchTop Proofs.BridgeMatches

/-- For every number of components, both logic modes, every line and every contract-keeping world: the translated
    `Matcher.matches` returns the model's verdict and leaves exactly the environment the model leaves. -/
theorem matches_source_is_model (ext : Py.Ext) (n : Nat) (dm : Bool) (e : Py.Env) (effs : List Py.Eff) (r : List String)
    (endIdx : Option Nat) (i : Nat) (hC : Contract ext) (hinv : Inv dm 0 e) (hlen : e "len(self.expressions)" = .int n)
    (hli : LineInfo e r endIdx i) :
    okVE (Generated.Matches.Matcher.matches ext e effs) =
      some (.bool (matchLine (world ext n) dm (blankLast r endIdx i) e).1, (matchLine (world ext n) dm (blankLast r endIdx i) e).2) := by
  obtain ⟨l1, l2, l3⟩ := hli
  simp only [py_core]
  -- the test for the blank last line, whatever helper computes it
  generalize hc : Py.H.val _ = c
  have hcv : c = .bool (blankLast r endIdx i) := by
    rw [← hc]
    simp only [py_eval, l1, l2, l3, eq_optNat, blankLast]
    generalize (endIdx == some i) = a
    generalize r.isEmpty = b
    cases endIdx <;> cases a <;> cases b <;> rfl
  subst hcv
  obtain ⟨c1, c2, c3, c4⟩ := hinv
  have hval := hC.value
  cases hbl : blankLast r endIdx i
  · have ite_not : ∀ b : Bool, (if b = true then Py.V.bool false else Py.V.bool true) = Py.V.bool (!b) := fun b => by cases b <;> rfl
    simp only [py_eval, matchLine, c2, hlen, ite_not, Py.H.forRange_nat]
    -- the loop is `loop_is_go`, wherever `failed` sits among the loop-carried locals (`mt_loop` is tried at each place)
    first | mt_loop 0 | mt_loop 1 | mt_loop 2 | mt_loop 3 | mt_loop 4
  · simp only [py_eval, matchLine, Py.H.call_ok [] rfl (hval _ _ _), world]
    rfl

/-- on a line that is not the blank last line, `Matcher.matches` is the component loop -/
theorem matches_is_go (ext : Py.Ext) (n : Nat) (dm : Bool) (e : Py.Env) (effs : List Py.Eff) (r : List String)
    (endIdx : Option Nat) (i : Nat) (hC : Contract ext) (hinv : Inv dm 0 e) (hlen : e "len(self.expressions)" = .int n)
    (hli : LineInfo e r endIdx i) (hbl : blankLast r endIdx i = false) :
    okVE (Generated.Matches.Matcher.matches ext e effs) =
      some (.bool (go (world ext n) dm n 0 e (!dm)).1, (go (world ext n) dm n 0 e (!dm)).2) := by
  rw [matches_source_is_model ext n dm e effs r endIdx i hC hinv hlen hli, hbl]
  rfl

/-- C01 (top level), of the translated source: on a line that is not the blank last line and on which no component sees the stop
    or the skip flag set, the verdict `Matcher.matches` returns is the AND (in OR mode the OR) of the components' votes, each
    component evaluated in the state its predecessor left. -/
theorem c01_toplevel_source (ext : Py.Ext) (n : Nat) (dm : Bool) (e : Py.Env) (effs : List Py.Eff) (r : List String)
    (endIdx : Option Nat) (i : Nat) (hC : Contract ext) (hinv : Inv dm 0 e) (hlen : e "len(self.expressions)" = .int n)
    (hli : LineInfo e r endIdx i) (hbl : blankLast r endIdx i = false)
    (hq : ∀ t ∈ states (world ext n) n 0 e, (world ext n).stopped t = false ∧ (world ext n).skip t = false) :
    ∃ env', okVE (Generated.Matches.Matcher.matches ext e effs) =
      some (.bool (if dm then (votes (world ext n) n 0 e).all id else (votes (world ext n) n 0 e).any id), env') := by
  rw [matches_is_go ext n dm e effs r endIdx i hC hinv hlen hli hbl, Proofs.MatchTop.go_clean (world ext n) dm n 0 e (!dm) hq]
  cases dm <;> simp

/-- C03 (same line), of the translated source: on a line on which no component sees the stop or the skip flag set, every component
    is evaluated exactly once, in the order written, each in the state its predecessors left; what `Matcher.matches` leaves behind
    is that state with the line's errors handled. -/
theorem c03_sameline_source (ext : Py.Ext) (n : Nat) (dm : Bool) (e : Py.Env) (effs : List Py.Eff) (r : List String)
    (endIdx : Option Nat) (i : Nat) (hC : Contract ext) (hinv : Inv dm 0 e) (hlen : e "len(self.expressions)" = .int n)
    (hli : LineInfo e r endIdx i) (hbl : blankLast r endIdx i = false)
    (hq : ∀ t ∈ states (world ext n) n 0 e, (world ext n).stopped t = false ∧ (world ext n).skip t = false) :
    ∃ b, okVE (Generated.Matches.Matcher.matches ext e effs) =
      some (.bool b, (world ext n).finish ((world ext n).clearErrors (afterAll (world ext n) n 0 e))) := by
  rw [matches_is_go ext n dm e effs r endIdx i hC hinv hlen hli hbl, Proofs.MatchTop.go_clean (world ext n) dm n 0 e (!dm) hq]
  exact ⟨_, rfl⟩

/-- C13 (stop), of the translated source: a component that sees the stop flag set is not evaluated, nor is any later one; the
    line does not match. -/
theorem c13_stop_cut_source (ext : Py.Ext) (n : Nat) (dm : Bool) (e : Py.Env) (effs : List Py.Eff) (r : List String)
    (endIdx : Option Nat) (i : Nat) (hC : Contract ext) (hinv : Inv dm 0 e) (hlen : e "len(self.expressions)" = .int (n + 1))
    (hli : LineInfo e r endIdx i) (hbl : blankLast r endIdx i = false) (hs : (world ext (n + 1)).stopped e = true) :
    okVE (Generated.Matches.Matcher.matches ext e effs) = some (.bool false, (world ext (n + 1)).clearErrors e) := by
  rw [matches_is_go ext (n + 1) dm e effs r endIdx i hC hinv hlen hli hbl, Proofs.MatchTop.go_stop_cut _ _ _ _ _ _ hs]

/-- C13 (skip), of the translated source: a component that sees the skip flag set is not evaluated, nor is any later one; the
    line does not match and the flag is cleared for the next line. -/
theorem c13_skip_cut_source (ext : Py.Ext) (n : Nat) (dm : Bool) (e : Py.Env) (effs : List Py.Eff) (r : List String)
    (endIdx : Option Nat) (i : Nat) (hC : Contract ext) (hinv : Inv dm 0 e) (hlen : e "len(self.expressions)" = .int (n + 1))
    (hli : LineInfo e r endIdx i) (hbl : blankLast r endIdx i = false) (hs : (world ext (n + 1)).stopped e = false)
    (hk : (world ext (n + 1)).skip e = true) :
    okVE (Generated.Matches.Matcher.matches ext e effs) =
      some (.bool false, (world ext (n + 1)).clearErrors ((world ext (n + 1)).clearSkip e)) := by
  rw [matches_is_go ext (n + 1) dm e effs r endIdx i hC hinv hlen hli hbl, Proofs.MatchTop.go_skip_cut _ _ _ _ _ _ hs hk]

/-- the interpreter model's top level is the same abstract loop (so `c01_toplevel`, `c13_stop_cut`, `c13_skip_cut` of the
    interpreter model and the statements above are about one definition) -/
theorem interp_is_instance (env : Model.Interp.Env) (prog : List Model.Interp.Node) (v : Model.Interp.View) :
    Model.Interp.matchLine env prog v =
      let r := go (Proofs.MatchTop.interpWorld env prog) env.dm prog.length 0 (v, none) (!env.dm)
      (r.1, r.2.1, r.2.2) := by
  simpa [Model.Interp.matchLine] using Proofs.MatchTop.matchExprs_is_go env prog 0 v (!env.dm) none

/-! non-vacuity: a world and an environment that meet the hypotheses (two components that vote True and leave everything alone,
    AND mode, an ordinary line) -/
def exExt : Py.Ext := fun _ _ e => (.bool true, e)
def exEnv : Py.Env := fun k =>
  if k = "self._AND" then .bool true else if k = "self.csvpath" then .str "csvpath"
  else if k = "len(self.expressions)" then .int 2 else if k = "self.line" then .strs ["a"]
  else if k = "self.csvpath.line_monitor._physical_line_number" then .int 1 else .none

example : Contract exExt := ⟨fun _ _ _ => rfl, fun _ _ _ h => h, fun _ _ => rfl, fun _ _ => rfl, fun _ _ _ => rfl⟩
example : Inv true 0 exEnv := by
  refine ⟨fun k => ?_, rfl, rfl, fun j _ => ?_⟩
  · simp only [exEnv, apply_ite Py.isExc, py_eval, ite_self]
  · unfold exEnv
    simp only [ckey_ne j _ (by decide : ("self._AND" : String).toList.head? ≠ some '#'),
      ckey_ne j _ (by decide : ("self.csvpath" : String).toList.head? ≠ some '#'),
      ckey_ne j _ (by decide : ("len(self.expressions)" : String).toList.head? ≠ some '#'),
      ckey_ne j _ (by decide : ("self.line" : String).toList.head? ≠ some '#'),
      ckey_ne j _ (by decide : ("self.csvpath.line_monitor._physical_line_number" : String).toList.head? ≠ some '#'), if_false]
example : LineInfo exEnv ["a"] Option.none 1 := ⟨rfl, rfl, rfl⟩

end Props.MatchTie
