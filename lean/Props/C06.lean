/-
  C06 — Lines are delivered as they are in the file; headers are the first data line.
  What is proved: nothing between the reader and the caller alters a record (for every matcher),
  and the header clauses on the header model; and, on the model of Python's csv module
  (`Model/Csv.lean`: the reader's state machine and the writer's quoting rule, tied to the real
  module by the correspondence check), that reading what `csv.writer` wrote gives back the records
  cell for cell, for every dialect and every cell text without a carriage return.  UTF-8 decoding
  is below the model.
-/
import Model.RunLoop
import Model.Headers
import Model.Csv
import Proofs.RunLoop
import Proofs.Csv
import Proofs.Headers

namespace Props.C06
open Model.Scan Model.Run Proofs.Run Model.Headers Proofs.Headers

variable {σ : Type}

/-- every line `collect()`/`next()` returns and every line kept as unmatched *is* one of the
    records the reader produced — same cells, same order, at strictly increasing positions —
    whatever the match part is (programs that rewrite the line with replace/append/collect are
    outside the modelled matcher interface) -/
theorem c06_identity (m : MatcherSem σ) (scan : St) (cfg : Cfg) (budget : Option Nat) (recs : List Rec)
    (st : LoopSt σ) :
    (∃ ys : List Nat, (runWith m scan cfg budget recs st).1 = ys.map (fun j => recs.getD j []) ∧
      ∀ j ∈ ys, j < recs.length) ∧
    (∃ us : List Nat, (runWith m scan cfg budget recs st).2.2.unmatched = us.map (fun j => recs.getD j []) ∧
      ∀ j ∈ us, j < recs.length) := by
  cases hw : cfg.willRun
  · rw [runWith_norun hw]; exact ⟨⟨[], rfl, by simp⟩, ⟨[], rfl, by simp⟩⟩
  · rw [runWith_run hw]
    obtain ⟨n, hn, h⟩ := runFrom_AccInv m scan cfg.cwnm (cfg.collecting && cfg.unmatchedAvail) (endIdxOf recs) budget recs st
    exact ⟨⟨_, h.lines, fun j hj => Nat.lt_of_lt_of_le (h.ys.2 j hj) hn⟩,
           ⟨_, h.unm, fun j hj => Nat.lt_of_lt_of_le (h.us.2 j hj) hn⟩⟩

/-- the header names are the cleaned cells of the first non-blank record -/
theorem c06_headers (strip : String → String) (blanks : List Rec) (hb : ∀ b ∈ blanks, b = []) (first : Rec)
    (hf : first ≠ []) (rest : List Rec) :
    headersOf strip (blanks ++ first :: rest) = first.map (cleanHeader strip) := by
  induction blanks with
  | nil =>
    cases first with
    | nil => exact absurd rfl hf
    | cons c cs => simp [headersOf]
  | cons b bs ih =>
    obtain ⟨rfl, hbs⟩ := List.forall_mem_cons.mp hb
    simp only [List.cons_append, headersOf, List.isEmpty_nil, if_true]
    exact ih hbs

/-- a cleaned header contains none of the delimiter-like characters -/
theorem c06_clean (strip : String → String) (h : String) (c : Char) (hc : c ∈ removed) :
    c ∉ (cleanHeader strip h).toList := by
  intro hm
  rw [cleanHeader, String.toList_ofList] at hm
  simpa [hc] using (List.mem_filter.mp hm).2

/-- `#name` and `#index` address the same cell on every line -/
theorem c06_name_index (strip : String → String) (headers : List String) (name : String) (i : Nat)
    (h : headerIndex headers name = some i) (line : Rec) :
    headerValue strip headers line (.name name) = headerValue strip headers line (.index i) := by
  simp [headerValue, h]

/-- the index found is the first position holding that name -/
theorem c06_index_is_first (headers : List String) (name : String) (i : Nat)
    (h : headerIndex headers name = some i) :
    headers[i]? = some name ∧ ∀ j, j < i → headers[j]? ≠ some name := by
  obtain ⟨hi, hn, hj⟩ := List.findIdx?_eq_some_iff_getElem.mp (headerIndex_eq_findIdx? .. ▸ h)
  refine ⟨?_, fun j hji => ?_⟩
  · rw [List.getElem?_eq_getElem hi, beq_iff_eq.mp hn]
  · rw [List.getElem?_eq_getElem (Nat.lt_trans hji hi)]
    exact fun e => hj j hji (beq_iff_eq.mpr (Option.some.inj e))

/-- a header missing from a short row (or unknown) reads as absent rather than failing -/
theorem c06_short_row (strip : String → String) (headers : List String) (line : Rec) (name : String) (i : Nat)
    (h : headerIndex headers name = some i) (hshort : line.length ≤ i) :
    headerValue strip headers line (.name name) = none ∧ headerValue strip headers line (.index i) = none := by
  have : line[i]? = none := by simp; omega
  simp [headerValue, h, this]

example : headersOf id [[], [" a;", "b|c"], ["1", "2"]] = [" a", "bc"] := by decide

open Model.Csv in
/-- **writer then reader is the identity**: for every delimiter and quote character (distinct, not
    line ends), every list of records — blank records, ragged rows, empty cells, cells holding
    delimiters, quote characters, line feeds and any other text — with no carriage return in a cell
    and no cell longer than the field size limit, `csv.reader` over the text `csv.writer` produced
    yields exactly those records: same count, same cells, same order. -/
theorem c06_csv_roundtrip (d : Dialect) (hd : Proofs.Csv.WFD d) (recs : List Model.Csv.Rec)
    (h : ∀ r ∈ recs, ∀ c ∈ r, '\r' ∉ c ∧ c.length ≤ d.limit) :
    Model.Csv.read d (render d recs) = some recs :=
  Proofs.Csv.read_render hd recs h

open Model.Csv in
/-- the two clauses together: what the run returns are cells of the records that were written -/
theorem c06_delivered (d : Dialect) (hd : Proofs.Csv.WFD d) (recs : List Model.Csv.Rec)
    (h : ∀ r ∈ recs, ∀ c ∈ r, '\r' ∉ c ∧ c.length ≤ d.limit)
    (m : MatcherSem σ) (scan : St) (cfg : Cfg) (budget : Option Nat) (st : LoopSt σ) :
    ∃ file : List Model.Run.Rec, (Model.Csv.read d (render d recs)).map (·.map (·.map String.ofList)) = some file ∧
      file = recs.map (·.map String.ofList) ∧
      ∃ ys : List Nat, (runWith m scan cfg budget file st).1 = ys.map (fun j => file.getD j []) ∧ ∀ j ∈ ys, j < file.length := by
  refine ⟨recs.map (·.map String.ofList), ?_, rfl, ?_⟩
  · rw [c06_csv_roundtrip d hd recs h]; rfl
  · exact (c06_identity m scan cfg budget _ st).1

/-- the premises are satisfiable and the statement is not about tidy cells only -/
example : Model.Csv.read ⟨',', '"', 131072⟩ (Model.Csv.render ⟨',', '"', 131072⟩
      [["a,b".toList, "say \"hi\"".toList, "two\nlines".toList], [], [[]], [[], "x".toList]])
    = some [["a,b".toList, "say \"hi\"".toList, "two\nlines".toList], [], [[]], [[], "x".toList]] := by decide

/-- why the hypothesis on carriage returns: one in a cell is written unquoted and splits the record
    when it is read back (the property's quantifier excludes CR) -/
example : Model.Csv.read ⟨',', '"', 131072⟩ (Model.Csv.render ⟨',', '"', 131072⟩ [["a\rb".toList]])
    = some [["a".toList], ["b".toList]] := by decide

end Props.C06
