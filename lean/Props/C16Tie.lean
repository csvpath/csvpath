import Generated.Facts
import Model.Print
/-!
Tie (T) for C16: the character classes and keywords of the print model are those of
`LarkPrintParser.GRAMMAR` as it stands in /repo (tools/extract.py evaluates the grammar's own
regular expressions on every ASCII character and writes the tables to Generated/Facts.lean).
-/
namespace Props.C16Tie

theorem simple_name_class :
    ∀ c, c < 128 → Model.Print.isSimple (Char.ofNat c) = Generated.printSimpleAscii.contains c := by decide +kernel

theorem text_class :
    ∀ c, c < 128 → Model.Print.isText (Char.ofNat c) = Generated.printTextAscii.contains c := by decide +kernel

theorem ws_class :
    ∀ c, c < 128 → Model.Print.isWS (Char.ofNat c) = Generated.wsAscii.contains c := by decide +kernel

theorem type_keywords :
    Generated.printTypes.map (fun s => (Model.Print.typeOf (s.toList ++ ['.'])).map (·.2)) =
      [some ['.'], some ['.'], some ['.'], some ['.']] := by decide +kernel

end Props.C16Tie
