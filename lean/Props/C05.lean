/-
  C05 — Errors in match components are handled exactly as the error policy says.
-/
import Model.ErrorPolicy
import Spec.Errors
import Proofs.ErrorPolicy

namespace Props.C05
open Model.Err Proofs.Err

theorem handleOne_fields (p : Policy) (o : Override) (s : ESt) (e : Nat) :
    (handleOne p o s e).2 = doRaise p o ∧
    (handleOne p o s e).1.stopped = (s.stopped || doStop p o) ∧
    (handleOne p o s e).1.valid = (s.valid && !doFail p o) ∧
    (handleOne p o s e).1.collected = s.collected ++ (if p.collect then [e] else []) ∧
    (handleOne p o s e).1.printed = s.printed ++ (if doPrint p o then [e] else []) := by
  unfold handleOne
  cases doStop p o <;> cases p.collect <;> cases doFail p o <;> cases doPrint p o <;> simp

theorem handleAll_fields (p : Policy) (o : Override) : ∀ (es : List Nat) (s : ESt),
    (handleAll p o s es).2 = (doRaise p o && !es.isEmpty) ∧
    (handleAll p o s es).1.stopped = (s.stopped || (doStop p o && !es.isEmpty)) ∧
    (handleAll p o s es).1.valid = (s.valid && !(doFail p o && !es.isEmpty)) ∧
    (handleAll p o s es).1.collected =
      s.collected ++ (if p.collect then (if doRaise p o then es.take 1 else es) else []) ∧
    (handleAll p o s es).1.printed =
      s.printed ++ (if doPrint p o then (if doRaise p o then es.take 1 else es) else []) := by
  intro es
  induction es with
  | nil => intro s; simp [handleAll]
  | cons e es ih =>
    intro s
    obtain ⟨f1, f2, f3, f4, f5⟩ := handleOne_fields p o s e
    unfold handleAll
    cases hR : doRaise p o
    · rw [hR] at f1
      simp only [f1, Bool.false_eq_true, if_false]
      obtain ⟨h1, h2, h3, h4, h5⟩ := ih (handleOne p o s e).1
      rw [hR] at h1 h4 h5
      refine ⟨by simpa using h1, ?_, ?_, ?_, ?_⟩
      · rw [h2, f2]; cases doStop p o <;> simp
      · rw [h3, f3]; cases doFail p o <;> simp
      · rw [h4, f4]; cases p.collect <;> simp
      · rw [h5, f5]; cases doPrint p o <;> simp
    · rw [hR] at f1
      simp only [f1, if_true]
      refine ⟨by simp, ?_, ?_, ?_, ?_⟩
      · rw [f2]; simp
      · rw [f3]; simp
      · rw [f4]; cases p.collect <;> simp
      · rw [f5]; cases doPrint p o <;> simp

/-- `collect` is decided by the policy alone; raise/print/stop/fail by the override when the
    csvpath's validation-mode mentions them, else by the policy -/
theorem c05_override (p : Policy) (o : Override) :
    doRaise p o = Spec.Err.eff p.raise o.raise ∧ doPrint p o = Spec.Err.eff p.print o.print ∧
    doStop p o = Spec.Err.eff p.stop o.stop ∧ doFail p o = Spec.Err.eff p.fail o.fail := by
  have h : ∀ (c : Bool) (v : Option Bool), v.getD c = Spec.Err.eff c v := fun c v => by cases v <;> rfl
  exact ⟨h _ _, h _ _, h _ _, h _ _⟩

/-- For every policy (all 2^6 subsets), every validation-mode override and every list of errors
    raised on a line (any length): starting from a running, valid csvpath, handling them leaves
    exactly the outcome the policy flags prescribe. -/
theorem c05_policy (p : Policy) (o : Override) (es : List Nat) :
    (handleAll p o {} es).2 = (Spec.Err.outcome p o es).raised ∧
    (handleAll p o {} es).1.stopped = (Spec.Err.outcome p o es).stopped ∧
    (handleAll p o {} es).1.valid = (Spec.Err.outcome p o es).valid ∧
    (handleAll p o {} es).1.collected = (Spec.Err.outcome p o es).collected ∧
    (handleAll p o {} es).1.printed = (Spec.Err.outcome p o es).printed := by
  obtain ⟨h1, h2, h3, h4, h5⟩ := handleAll_fields p o es {}
  obtain ⟨o1, o2, o3, o4⟩ := c05_override p o
  simp only [Spec.Err.outcome, ← o1, ← o2, ← o3, ← o4]
  exact ⟨h1, by simpa using h2, by simpa using h3, by simpa using h4, by simpa using h5⟩

/-! ### The validation-mode reader

`readFlag_commaSep` takes the reader from the text of a comma-separated setting to its words; what
is left is a table over words. -/

/-- the families of validation-mode, as `_update_settings` spells them -/
def fams : List String := ["raise", "print", "stop", "fail", "match"]

def famText (fam : String) : Option Bool → List String
  | none => []
  | some true => [fam]
  | some false => ["no-" ++ fam]

def settingText (r pr st f m : Option Bool) : String :=
  ", ".intercalate (famText "raise" r ++ famText "print" pr ++ famText "stop" st ++ famText "fail" f ++ famText "match" m)

def allOB : List (Option Bool) := [none, some true, some false]

/-- the finite part: among the words of the documented settings each family's token is found in
    that family's word only, the `no-` form only in the `no-` word -/
theorem words_table :
    ∀ r ∈ allOB, ∀ pr ∈ allOB, ∀ st ∈ allOB, ∀ f ∈ allOB, ∀ m ∈ allOB,
      fams.map (readWords (famText "raise" r ++ famText "print" pr ++ famText "stop" st ++
        famText "fail" f ++ famText "match" m)) = [r, pr, st, f, m] := by
  decide +kernel

/-- the five families' tokens hold no comma and no blank: in a comma-separated setting each is read off the words -/
theorem readFlag_fams (ws : List String) :
    fams.map (readFlag (", ".intercalate ws).toList) = fams.map (readWords ws) :=
  have hfam : ∀ tok ∈ fams, ',' ∉ tok.toList ∧ ' ' ∉ tok.toList ∧ tok.toList ≠ [] := by decide
  List.map_congr_left fun tok ht =>
    have ⟨h1, h2, h3⟩ := hfam tok ht
    readFlag_commaSep ws h1 h2 h3

/-- the validation-mode reader on the documented tokens: every way of mentioning each of the five
    families (absent / `x` / `no-x`), written as a comma-separated list, is read as intended -/
theorem c05_validation_tokens :
    ∀ r ∈ allOB, ∀ pr ∈ allOB, ∀ st ∈ allOB, ∀ f ∈ allOB, ∀ m ∈ allOB,
      readOverride (some (settingText r pr st f m)) =
        { raise := r, print := pr, stop := st, fail := f, matchv := m } := by
  intro r hr pr hpr st hst f hf m hm
  have h : fams.map (readFlag (settingText r pr st f m).toList) = [r, pr, st, f, m] :=
    (readFlag_fams _).trans (words_table r hr pr hpr st hst f hf m hm)
  simp only [fams, List.map_cons, List.map_nil, List.cons.injEq, and_true] at h
  obtain ⟨h1, h2, h3, h4, h5⟩ := h
  rw [readOverride_some, h1, h2, h3, h4, h5]

example : (handleAll { collect := true, stop := true } { stop := some false } {} [3, 4]).1.collected = [3, 4] := by decide
example : (handleAll { raise := true, print := true } {} {} [3, 4]).1.printed = [3] := by decide

end Props.C05
