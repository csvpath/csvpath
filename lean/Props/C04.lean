/-
  C04 — The validity verdict is False exactly when the csvpath failed the file.
-/
import Model.Matcher
import Model.Archive
import Proofs.Matcher

namespace Props.C04
open Model.Interp Model.Run Proofs.Matcher

/-- one line: validity after the line is validity before it, minus any `invalid` effect of a
    component that was actually evaluated (fail(), fail_and_stop() firing) — for every program,
    every line, every state.  In particular it never returns to True. -/
theorem c04_line (env : Env) (prog : List Node) (v : View) :
    (matchLine env prog v).2.1.valid = (v.valid && !(effectsOf env prog v).any isInvalid) :=
  matchExprs_valid env prog v (!env.dm) none

/-- a whole run under the interpreter: once False the verdict is never True again -/
theorem c04_run_monotone (scan : Model.Scan.St) (cwnm ku : Bool) (endIdx : Option Nat) (recs : List Rec)
    (budget : Option Nat) (i : Nat) (st : LoopSt MState) (acc : Acc)
    (h : (runFrom interpMatcher scan cwnm ku endIdx budget i recs st acc).2.1.fl.valid = true) :
    st.fl.valid = true :=
  runFrom_validMono interp_validMono h

/-- … and the same for every matcher that itself never sets validity back (the run loop never
    writes the flag) -/
theorem c04_loop_never_writes {σ : Type} (m : MatcherSem σ) (hm : ValidMono m) (scan : Model.Scan.St)
    (cwnm ku : Bool) (endIdx : Option Nat) (recs : List Rec) (budget : Option Nat) (i : Nat) (st : LoopSt σ)
    (acc : Acc) (h : (runFrom m scan cwnm ku endIdx budget i recs st acc).2.1.fl.valid = true) :
    st.fl.valid = true :=
  runFrom_validMono hm h

/-- the run manifest's all_valid is the conjunction of the members' verdicts -/
theorem c04_aggregate {ν ε : Type} (results : List (Model.Archive.MemberResult ν ε)) :
    (Model.Archive.completeManifest results).allValid = some (results.all (fun r => r.valid)) := by
  simp [Model.Archive.completeManifest, Model.Archive.conj, List.all_map]

/-- a branch that is not executed cannot touch the verdict (or anything else): when the left side of
    `left -> right` does not hold, the state after the component is the state after `left` alone,
    whatever `right` is (a `fail()`, a `fail_and_stop()`, an assignment, …) -/
theorem c04_unexecuted_branch (fuel : Nat) (env : Env) (l r : Node) (s : ES)
    (h : ((evalM fuel env l s).1 == some true) = false) :
    (evalWhen (fuel + 1) env l r s).2 = (evalM fuel env l s).2 := by
  unfold evalWhen
  simp only [h, Bool.false_eq_true, if_false]
  -- the `if` that is left (`nocontrib` in OR mode) chooses the vote only: both arms return the state after `left`
  split <;> rfl

end Props.C04
