/-
  C07 — collect(), next() and fast_forward() are the same run.
  All theorems are parametric in the matcher (`MatcherSem σ` is an arbitrary function of the line,
  its own state — variables, errors, printouts — and the flags), so they hold for every csvpath.
-/
import Model.RunLoop
import Proofs.RunLoop

namespace Props.C07
open Model.Scan Model.Run Proofs.Run

variable {σ : Type}

/-- `collect()` returns the lines `next()` yields and leaves the same state: matcher state
    (variables, errors, printouts), flags (stopped, validity, advance, frozen, match count),
    scan count and line-monitor counters. -/
theorem c07_collect_next (m : MatcherSem σ) (scan : St) (cfg : Cfg) (recs : List Rec) (st : LoopSt σ) :
    (collectRun m scan cfg recs st).1 = (nextRun m scan cfg recs st).1 ∧
    (collectRun m scan cfg recs st).2.1 = (nextRun m scan cfg recs st).2.1 := by
  cases hw : cfg.willRun
  · rw [collectRun_norun hw, nextRun_norun hw]; exact ⟨rfl, rfl⟩
  · rw [collectRun_run hw, nextRun_run hw]; exact runFrom_consumer

/-- `fast_forward()` ends in the state `collect()` ends in -/
theorem c07_ff (m : MatcherSem σ) (scan : St) (cfg : Cfg) (recs : List Rec) (st : LoopSt σ) :
    ffRun m scan cfg recs st = (collectRun m scan cfg recs st).2.1 := by
  unfold ffRun; exact (c07_collect_next m scan cfg recs st).2.symm

/-- `collect(nexts=n)`, n ≥ 1, returns the first n lines of `collect()` -/
theorem c07_prefix (m : MatcherSem σ) (scan : St) (cfg : Cfg) (n : Nat) (hn : 1 ≤ n) (recs : List Rec)
    (st : LoopSt σ) :
    (collectN m scan cfg n recs st).1 = ((collectRun m scan cfg recs st).1).take n := by
  obtain ⟨k, rfl⟩ : ∃ k, n = k + 1 := ⟨n - 1, by omega⟩
  cases hw : cfg.willRun
  · rw [collectN_norun hw, collectRun_norun hw]; rfl
  · rw [collectN_run hw, collectRun_run hw]; exact runFrom_budget_lines

/-- `collect(nexts=n)` performs no side effect belonging to a later line: when `collect()` has
    at least n lines, the whole result (lines, state, accumulators) of `collect(nexts=n)` is
    determined by a prefix of the file — replacing everything after that prefix by any other
    records changes nothing. -/
theorem c07_no_later_effect (m : MatcherSem σ) (scan : St) (cwnm ku : Bool) (endIdx : Option Nat)
    (n : Nat) (hn : 1 ≤ n) (recs : List Rec) (st : LoopSt σ)
    (hlen : n ≤ ((runFrom m scan cwnm ku endIdx none 0 recs st {}).1).length) :
    ∃ j, j ≤ recs.length ∧ ∀ other,
      runFrom m scan cwnm ku endIdx (some n) 0 (recs.take j ++ other) st {} =
        runFrom m scan cwnm ku endIdx (some n) 0 recs st {} := by
  obtain ⟨k, rfl⟩ : ∃ k, n = k + 1 := ⟨n - 1, by omega⟩
  exact runFrom_budget_suffix hlen

/-- `collect(nexts=0)` is `collect(nexts=1)` (as the loop in `collect` is written) -/
theorem c07_nexts_zero (m : MatcherSem σ) (scan : St) (cfg : Cfg) (recs : List Rec) (st : LoopSt σ) :
    collectN m scan cfg 0 recs st = collectN m scan cfg 1 recs st := by
  cases hw : cfg.willRun
  · rw [collectN_norun hw, collectN_norun hw]
  · rw [collectN_run hw, collectN_run hw]; exact runFrom_budget_zero

/-! Non-vacuity: a concrete run that stops early (matcher: match everything, stop at record 1). -/
def stopAt1 : MatcherSem Nat where
  eval ctx _ s fl := (true, s + 1, { fl with stopped := ctx.idx == 1 })

example : (collectRun stopAt1 { all := true } {} [["a"], ["b"], ["c"]] { ms := 0 }).1 = [["a"], ["b"]] := by
  decide
example : (collectN stopAt1 { all := true } {} 1 [["a"], ["b"], ["c"]] { ms := 0 }).2.1.ms = 1 := by
  decide

end Props.C07
