/-
  C13 — stop, skip, advance and last control the run as documented.
  Run-loop clauses, parametric in the matcher, then the interpreter clauses.
-/
import Model.RunLoop
import Proofs.RunLoop
import Model.Matcher
import Proofs.Matcher

namespace Props.C13
open Model.Scan Model.Run Proofs.Run

variable {σ : Type}

/-- `advance(n)`: while the advance counter is positive a scanned record passes without the
    matcher being called at all — the matcher state (variables, printouts, errors) is untouched,
    the record counts as scanned, not as matched, validity is unchanged and the counter goes
    down by one. -/
theorem c13_advance (m : MatcherSem σ) (scan : St) (endIdx : Option Nat) (i : Nat) (r : Rec)
    (st : LoopSt σ) (hr : r.isEmpty = false) (hi : includes scan i = true) (ha : st.fl.advance > 0) :
    (considerCore m scan endIdx i r st).1 = some false ∧
    (considerCore m scan endIdx i r st).2.ms = st.ms ∧
    (considerCore m scan endIdx i r st).2.fl.advance = st.fl.advance - 1 ∧
    (considerCore m scan endIdx i r st).2.fl.matchCount = st.fl.matchCount ∧
    (considerCore m scan endIdx i r st).2.fl.valid = st.fl.valid ∧
    (considerCore m scan endIdx i r st).2.scanCount = st.scanCount + 1 := by
  rw [considerCore_advance hr hi ha]
  exact ⟨rfl, rfl, rfl, rfl, rfl, rfl⟩

/-- a file that ends in a blank record: the matcher is still called once for that record, with
    the run frozen and `blankLast` set (so that `last()` can fire), and the record is not returned
    in either return-mode and does not count as scanned. -/
theorem c13_last_blank (m : MatcherSem σ) (scan : St) (cwnm : Bool) (endIdx : Option Nat) (i : Nat)
    (st : LoopSt σ) (he : endIdx = some i) :
    considerLine m scan cwnm endIdx i [] st =
      (false, (callMatcher m endIdx i true [] { st with fl := { st.fl with frozen := true } }).2) ∧
    (considerLine m scan cwnm endIdx i [] st).2.scanCount = st.scanCount := by
  rw [considerLine, considerCore_blankLast (by simp [he])]
  exact ⟨rfl, rfl⟩

/-- once the stop flag is set after a record (by `stop()`, by an error policy with `stop`, or by
    the scanner's own last line) no later record is read: the run ends with that record. -/
theorem c13_stop_ends_run (m : MatcherSem σ) (scan : St) (cwnm ku : Bool) (endIdx : Option Nat)
    (i : Nat) (r : Rec) (rs : List Rec) (st : LoopSt σ) (acc : Acc)
    (hs : (considerLine m scan cwnm endIdx i r (trackLine i r st)).2.fl.stopped = true) :
    (runFrom m scan cwnm ku endIdx none i (r :: rs) st acc).2.1 =
      finalize (considerLine m scan cwnm endIdx i r (trackLine i r st)).2 ∧
    (runFrom m scan cwnm ku endIdx none i (r :: rs) st acc).2.2.seen = acc.seen + 1 := by
  rw [runFrom_none_cons]
  simp only [hs, if_true, accStep_eq, and_self]

/-- `stop()`: once the stop flag is set, no later component of the line is evaluated (the view is
    returned untouched) and the line is not matched; a stop set by the *last* component is not
    seen by this loop, so that line's verdict stands -/
theorem c13_stop_cut (env : Model.Interp.Env) (e : Model.Interp.Node) (es : List Model.Interp.Node)
    (v : Model.Interp.View) (f : Bool) (b : Option String) (h : v.stopped = true) :
    Model.Interp.matchExprs env (e :: es) v f b = (false, v, b) ∧
    (v.skip = false → Model.Interp.matchExprs env [] v f b = (!f, v, b)) :=
  ⟨Proofs.Matcher.matchExprs_stopped env e es v f b h, fun hk => by simp [Model.Interp.matchExprs, hk]⟩

/-- `skip()`: once the skip flag is set, no later component of the line is evaluated, the line is
    not matched, and the flag is cleared so that the next line proceeds normally -/
theorem c13_skip_cut (env : Model.Interp.Env) (e : Model.Interp.Node) (es : List Model.Interp.Node)
    (v : Model.Interp.View) (f : Bool) (b : Option String) (hs : v.stopped = false) (h : v.skip = true) :
    Model.Interp.matchExprs env (e :: es) v f b = (false, { v with skip := false }, b) ∧
    Model.Interp.matchExprs env [] v f b = (false, { v with skip := false }, b) :=
  ⟨Proofs.Matcher.matchExprs_skip env e es v f b hs h, by simp [Model.Interp.matchExprs, h]⟩

/-! Non-vacuity -/
def adv2 : MatcherSem Nat where
  eval ctx _ s fl := (true, s + 1, { fl with advance := if ctx.idx == 0 then 2 else fl.advance })

example : (nextRun adv2 { all := true } {} [["a"], ["b"], ["c"], ["d"]] { ms := 0 }).1 = [["a"], ["d"]] := by decide
example : (nextRun adv2 { all := true } {} [["a"], ["b"], ["c"], ["d"]] { ms := 0 }).2.1.ms = 2 := by decide

end Props.C13
