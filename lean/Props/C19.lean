/-
  C19 — Results depend only on the csvpath, the file and the configuration.
  The Lean part: the one explicit cross-run state, the header cache, returns what was stored
  (warm = cold) for safe header lists; and the model of a run is a function of (csvpath, records,
  configuration) by construction.  Process-global Python state has no counterpart in the model:
  history-independence of the implementation is tested (suite `jobs`).
-/
import Model.Cache
import Proofs.PathsStore
import Proofs.Csv

namespace Props.C19
open Model.Paths Model.Cache Proofs.Paths

/-- the comma split undoes the comma join of comma-free headers; stated with the split's accumulator `cur`, the
    characters of the first header read so far, for the induction -/
theorem split_join (rest : List Str) : ∀ (h : Str) (cur : Str),
    (∀ x ∈ h :: rest, x.contains ',' = false) →
    splitGo comma 0 (joinComma (h :: rest)) cur = (cur.reverse ++ h) :: rest := by
  induction rest with
  | nil =>
    intro h cur hc
    simpa [joinComma, splitGo] using splitGo_plain comma h [] cur (noStart_single ',' h [] (by simpa using hc h (.head _)))
  | cons h2 r2 ih =>
    intro h cur hc
    obtain ⟨hh, hc⟩ := List.forall_mem_cons.mp hc
    simp only [joinComma]
    rw [List.append_assoc, splitGo_plain comma h _ cur (noStart_single ',' h _ (by simpa using hh)), splitGo_sep comma (by decide),
      ih h2 [] hc]
    simp

/-- warm = cold: what the cache returns is what was stored, for every header list whose cells
    contain no comma (cleaned headers never do) — given that the line is read back as a comma
    split, which holds for lines free of quote characters and line breaks -/
theorem c19_cache_roundtrip (hs : List Str) (hc : ∀ h ∈ hs, h.contains ',' = false) (h1 : hs ≠ [[]]) :
    readBack (joinComma hs) = hs := by
  unfold readBack
  cases hs with
  | nil => simp [joinComma]
  | cons h rest =>
    have hne : (joinComma (h :: rest)).isEmpty = false := by
      cases rest with
      | nil =>
        cases h with
        | nil => exact absurd rfl h1
        | cons _ _ => simp [joinComma]
      | cons h2 r2 => simp [joinComma, comma]
    simp only [hne, Bool.false_eq_true, if_false, split]
    rw [split_join rest h [] hc]
    simp

/-- **warm = cold, on the csv model**: the header cache writes the headers with
    `csv.writer` and reads them with `csv.reader`; for *every* header list — empty, a single empty
    name, names holding commas, quote characters, line feeds — with no carriage return in a name
    (a text-mode reader never delivers one) the cache returns exactly the list that was stored. -/
theorem c19_cache_roundtrip_csv (hs : List Str) (h : ∀ x ∈ hs, '\r' ∉ x ∧ x.length ≤ cacheDialect.limit) :
    load (store hs) = some hs := by
  unfold load store
  rw [Proofs.Csv.read_recordCRLF (d := cacheDialect) Proofs.Csv.wfd_comma_quote hs h]
  cases hs with
  | nil => rfl
  | cons x xs => simp

example : load (store [[], "a,b".toList, "q\"".toList, "two\nlines".toList]) = some [[], "a,b".toList, "q\"".toList, "two\nlines".toList] := by
  -- spares `decide` the UTF-8 decoding of the literals
  repeat rw [String.toList_ofList]
  decide

example : load (store [[]]) = some [[]] := by decide

/-- why the cache goes through the csv module: with the plain comma join `['']` comes back as `[]` -/
theorem c19_cache_loses_single_empty : readBack (joinComma [[]]) = [] := by decide

example : readBack (joinComma ["a".toList, "b c".toList, "".toList]) = ["a".toList, "b c".toList, "".toList] := by
  repeat rw [String.toList_ofList]
  decide

end Props.C19
