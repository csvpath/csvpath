import Generated.CoreSelect
import Model.PathsStore
import Proofs.BridgeSelect
import Props.C12
/-! Tie (T) for selecting members of a named-paths group by identity (C12): the Lean translation of `PathsManager._get_to`,
    `_get_from` and `_find_one`, with their loops over the (identity, csvpath) pairs (Generated/CoreSelect.lean, written anew on every run), computes
    `Model.Paths.getTo`, `getFrom`, `findOne` for every group `g` and every identity.  The pairs (`get_identified_paths_in`, which runs
    the metadata parser over the group's members) are an object list of the world. -/
namespace Props.SelectTie
open Model.Paths Proofs.BridgeSelect

theorem get_to_source_is_model (ext : Py.Ext) (e : Py.Env) (g : List (String × String)) (npn : Py.V) (ident : String)
    (effs : List Py.Eff) (hL : IsList e g) :
    Generated.Select.PathsManager._get_to ext e npn (.str ident) effs =
      .ok (.strs ((getTo (toModel g) ident.toList).map String.ofList)) e effs := by
  simp only [py_core, py_eval, hL.len, Py.H.forRange_nat]
  -- wherever the collected list sits among the loop-carried locals
  first | to_with 0 | to_with 1 | to_with 2

theorem get_from_source_is_model (ext : Py.Ext) (e : Py.Env) (g : List (String × String)) (npn : Py.V) (ident : String)
    (effs : List Py.Eff) (hL : IsList e g) :
    Generated.Select.PathsManager._get_from ext e npn (.str ident) effs =
      .ok (.strs ((getFrom (toModel g) ident.toList).map String.ofList)) e effs := by
  simp only [py_core, py_eval, hL.len, Py.H.forRange_nat]
  first | from_with 0 | from_with 1 | from_with 2

/-- `_find_one` returns the member with that identity, and raises `InputException` exactly when there is none -/
theorem find_one_source_is_model (ext : Py.Ext) (e : Py.Env) (g : List (String × String)) (npn ident : String)
    (effs : List Py.Eff) (hL : IsList e g) :
    Generated.Select.PathsManager._find_one ext e (.str npn) (.str ident) effs =
      resOf ((findOne (toModel g) ident.toList).map String.ofList) e effs := by
  have hnn : Py.isnot (Py.V.str npn) Py.V.none = .bool true := rfl
  simp only [py_core, hnn, py_eval, hL.len, Py.H.forRange_nat]
  refine find_loop e g ident _ _ ?hb (fun _ _ => rfl) _ effs
  intro idx hlt locs effs' next brk
  exact ⟨[], by simp only [py_eval, hL.ident idx hlt, hL.path idx hlt, Py.H.ret]⟩

/-- C12 (selection), of the translated source: in a group whose member `(ident, p)` is the first with that identity, `name#ident`
    is `p`, `:to` is the group up to and including it, `:from` is the group from it on. -/
theorem c12_select_source (ext : Py.Ext) (e : Py.Env) (pre post : List (String × String)) (ident p npn : String) (effs : List Py.Eff)
    (hL : IsList e (pre ++ (ident, p) :: post)) (hpre : ∀ x ∈ pre, (x.1 == ident) = false) :
    Generated.Select.PathsManager._find_one ext e (.str npn) (.str ident) effs = .ok (.str p) e effs ∧
    Generated.Select.PathsManager._get_to ext e (.str npn) (.str ident) effs = .ok (.strs (pre.map (·.2) ++ [p])) e effs ∧
    Generated.Select.PathsManager._get_from ext e (.str npn) (.str ident) effs = .ok (.strs (p :: post.map (·.2))) e effs := by
  have hm := Props.C12.c12_select (toModel (pre ++ (ident, p) :: post)) ident.toList (toModel pre) (toModel post) p.toList
    (by simp [toModel]) (by
      intro x hx
      simp only [toModel, List.mem_map] at hx
      obtain ⟨y, hy, rfl⟩ := hx
      simpa [beq_toList] using hpre y hy)
  refine ⟨?_, ?_, ?_⟩
  · rw [find_one_source_is_model ext e _ npn ident effs hL, hm.1]; simp [resOf, String.ofList_toList]
  · rw [get_to_source_is_model ext e _ (.str npn) ident effs hL, hm.2.1]; simp [toModel, String.ofList_toList, Function.comp_def]
  · rw [get_from_source_is_model ext e _ (.str npn) ident effs hL, hm.2.2]; simp [toModel, String.ofList_toList, Function.comp_def]

/-! non-vacuity: an environment showing a two-member group -/
def exEnv : Py.Env := fun k =>
  if k = "len(idpaths)" then .int 2
  else if k = Py.ikey "idpaths" 0 "[0]" then .str "a" else if k = Py.ikey "idpaths" 0 "[1]" then .str "$[*][yes()]"
  else if k = Py.ikey "idpaths" 1 "[0]" then .str "b" else if k = Py.ikey "idpaths" 1 "[1]" then .str "$[1][no()]"
  else .none
example : IsList exEnv [("a", "$[*][yes()]"), ("b", "$[1][no()]")] := by
  refine ⟨rfl, ?_, ?_⟩ <;> decide +revert

end Props.SelectTie
