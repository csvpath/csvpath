import Generated.CoreLineMonitor
import Model.RunLoop
import Proofs.BridgeLineMonitor

/-! Tie (T) for the line monitor (C03): the Lean translation of `LineMonitor.next_line` and `set_end_lines_and_reset`
    (Generated/CoreLineMonitor.lean, written anew on every run) keeps the counters the run-loop model keeps (`Model.Run.trackData` for the data counters; the
    physical line number is the record's index, the physical count one more). -/
namespace Props.MonitorTie
open Model.Run Proofs.BridgeLineMonitor

-- `Py.not_clean`: for the source as R9 of DESIGN AB.7 arranges it
set_option linter.unusedSimpArgs false in
/-- one record: from the monitor after `i` records to the monitor after `i + 1`, for every record, blank or not -/
theorem next_line_source_is_model (ext : Py.Ext) (rest : Py.Env) (i : Nat) (dc dn : Int) (lastLine : Py.V) (r : Rec) (effs : List Py.Eff) :
    okVE (Generated.LineMonitor.LineMonitor.next_line ext (monEnv rest i dc dn) lastLine (.strs r) effs) =
      some (.none, monEnv rest (i + 1) (trackData i r dc dn).1 (trackData i r dc dn).2) := by
  rcases i with _ | j <;> cases hr : r.isEmpty <;>
    simp only [monEnv_zero, monEnv_succ, py_core, trackData, hr, py_eval, isExc_hasData,
      Py.H.cond_clean (isExc_hasData _ _), Py.not_clean (isExc_hasData _ _), truthy_hasData, rd_pc, rd_pn, rd_dc,
      upd_pc, upd_pn, upd_dc, upd_dn, Py.add_int, Py.eq_int, okVE, BEq.rfl,
      Int.natCast_zero, Int.zero_add, Int.natCast_add, Int.natCast_one, beq_iff_eq, Nat.add_one_ne_zero]
  -- left: a record with data after the first one, where the data count may have to restart
  by_cases hdc : dc = -1 <;> simp only [hdc, py_eval, Int.zero_add]

/-- the translated `next_line` as a step over records -/
def stepMon (ext : Py.Ext) (e : Py.Env) (r : Rec) : Option Py.Env :=
  (okVE (Generated.LineMonitor.LineMonitor.next_line ext e .none (.strs r) [])).map (·.2)

/-- the model's data counters folded over the records from index `i` on -/
def trackAll : Nat → Int → Int → List Rec → Int × Int
  | _, dc, dn, [] => (dc, dn)
  | i, dc, dn, r :: rs => trackAll (i + 1) (trackData i r dc dn).1 (trackData i r dc dn).2 rs

/-- C03 (line counters), of the translated source, for every file: stepping the monitor through any list of records leaves the
    physical count at the number of records, the physical line number at the index of the last one, and the data counters at
    what the run-loop model computes. -/
theorem monitor_over_file (ext : Py.Ext) (rest : Py.Env) (recs : List Rec) (i : Nat) (dc dn : Int) :
    recs.foldlM (stepMon ext) (monEnv rest i dc dn) =
      some (monEnv rest (i + recs.length) (trackAll i dc dn recs).1 (trackAll i dc dn recs).2) := by
  induction recs generalizing i dc dn with
  | nil => simp [trackAll]
  | cons r rs ih =>
    have h := next_line_source_is_model ext rest i dc dn .none r []
    simp only [List.foldlM_cons, stepMon, h, Option.map_some, Option.bind_eq_bind, Option.bind_some]
    rw [ih (i + 1)]
    simp [trackAll, Nat.add_assoc, Nat.add_comm 1]

/-- after a file of `n + 1` records the physical line number is `n` and the physical count `n + 1` -/
theorem physical_after_file (ext : Py.Ext) (rest : Py.Env) (recs : List Rec) (r : Rec) :
    ∃ e, (recs ++ [r]).foldlM (stepMon ext) (monEnv rest 0 0 0) = some e ∧
      e "self._physical_line_number" = .int recs.length ∧ e "self._physical_line_count" = .int (recs.length + 1) := by
  refine ⟨_, monitor_over_file ext rest (recs ++ [r]) 0 0 0, ?_, ?_⟩ <;>
    simp only [List.length_append, List.length_cons, List.length_nil, Nat.zero_add, monEnv_succ, rd_pn, rd_pc]

/-- `set_end_lines_and_reset`, of the translated source: the four end marks take the current counters, which are unset again -/
theorem set_end_source (ext : Py.Ext) (env : Py.Env) (effs : List Py.Eff)
    (h1 : Py.isExc (env "self._physical_line_count") = false) (h2 : Py.isExc (env "self._physical_line_number") = false)
    (h3 : Py.isExc (env "self._data_line_count") = false) (h4 : Py.isExc (env "self._data_line_number") = false) :
    ∃ env', okVE (Generated.LineMonitor.LineMonitor.set_end_lines_and_reset ext env effs) = some (.none, env') ∧
      env' "self._physical_end_line_count" = env "self._physical_line_count" ∧
      env' "self._physical_end_line_number" = env "self._physical_line_number" ∧
      env' "self._data_end_line_count" = env "self._data_line_count" ∧
      env' "self._data_end_line_number" = env "self._data_line_number" ∧
      env' "self._physical_line_count" = .none ∧ env' "self._physical_line_number" = .none ∧
      env' "self._data_line_count" = .none ∧ env' "self._data_line_number" = .none := by
  simp only [py_core, py_eval, Py.upd_other, String.reduceEq, not_false_eq_true, h1, h2, h3, h4, okVE]
  refine ⟨_, rfl, ?_⟩
  simp only [Py.upd_same, Py.upd_other, String.reduceEq, not_false_eq_true, and_self]

/-! `trackAll` on a file that starts with a blank line, then two records (the data count starts at -1 and restarts at 1) -/
example : trackAll 0 0 0 [[], ["a"], ["b"]] = (2, 2) := by decide

end Props.MonitorTie
