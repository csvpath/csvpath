import Generated.CoreScanner
import Model.Scan
import Proofs.BridgeScanner
import Props.C02
/-! Tie (T) for C02: the Lean translation of `Scanner.includes` and `Scanner.is_last` (Generated/CoreScanner.lean, written anew on every run) computes the
    hand-written `Model.Scan.includes` / `isLast`; hence the translated source selects exactly the denoted lines of every scan part of
    class K. -/
namespace Props.C02Tie
open Model.Scan Spec.Scan Proofs.BridgeScanner

/-- `includes(line)` as the run loop calls it, the four optional parameters left at their defaults, is `Model.Scan.includes` -/
theorem includes_source_is_model (s : St) (endLine : Option Nat) (line : Nat) (effs : List Py.Eff) :
    Generated.Scanner.Scanner.includes (scanEnv s endLine) (.int line) (.int (-1)) (.int (-1)) .none .none effs
      = .ok (.bool (includes s line)) effs := by
  obtain ⟨these, all, frm, to⟩ := s
  sc_norm [py_core, scanEnv, String.reduceEq, theseV, includes]
  -- left: the model's chain of tests on both sides; in its branches the code still compares the line with `optNat frm`, `optNat to`,
  -- which comes to the model's `decide`s once the ends are given
  cases frm <;> cases to <;> sc_norm []

/-- `is_last` for a scanner whose `these` list holds no None -/
theorem is_last_source_is_model (all : Bool) (frm to : Option Nat) (ys : List Nat) (endLine : Option Nat) (line : Nat)
    (effs : List Py.Eff) :
    Generated.Scanner.Scanner.is_last (scanEnv ⟨ys.map some, all, frm, to⟩ endLine) (.int line) (.int (-1)) (.int (-1))
        .none .none effs
      = .ok (.bool (isLast ⟨ys.map some, all, frm, to⟩ endLine line)) effs := by
  sc_norm [py_core, scanEnv, String.reduceEq, theseV, isLast]
  -- what the model distinguishes: the ends given or not, all lines or not, `these` empty or not
  rcases frm with _ | f <;> rcases to with _ | t <;> cases all <;> cases ys <;> sc_norm []
  -- left: both ends given, and the code has still to put them in order
  all_goals by_cases h : t < f <;> sc_norm [h]

/-- Every scan part of class K parses (model of the PLY actions) to a scanner state on which the *translated source*
    of `Scanner.includes` answers the denotation, for every line number. -/
theorem c02_includes_source (k : K) (hk : k.WF) :
    ∃ s, parse k.toExpr = .ok s ∧
      ∀ (endLine : Option Nat) (n : Nat) (effs : List Py.Eff),
        Generated.Scanner.Scanner.includes (scanEnv s endLine) (.int n) (.int (-1)) (.int (-1)) .none .none effs
          = .ok (.bool (k.den n)) effs := by
  obtain ⟨s, hp, hi, _⟩ := Props.C02.c02_parse k hk
  exact ⟨s, hp, fun e n effs => by rw [includes_source_is_model, hi]⟩

/-- non-vacuity: `[2-4]` includes line 3 and ends at line 4 -/
example : Generated.Scanner.Scanner.includes (scanEnv { frm := some 2, to := some 4 } none) (.int 3) (.int (-1)) (.int (-1)) .none .none []
    = .ok (.bool true) [] := by decide
example : Generated.Scanner.Scanner.is_last (scanEnv { frm := some 2, to := some 4 } none) (.int 4) (.int (-1)) (.int (-1)) .none .none []
    = .ok (.bool true) [] := by decide

end Props.C02Tie
