/-
  C01 — Returned lines are exactly the scanned lines that satisfy the match part.
  Run-loop clause (parametric in the matcher): whatever the match part is, the lines returned (in the
  default return-mode) are exactly the offered records on which the matcher answered True, each once, in file order.
  The component-level clauses (what "satisfy" means) follow it.
-/
import Model.RunLoop
import Proofs.RunLoop
import Model.Matcher
import Proofs.Matcher
import Proofs.Funcs

namespace Props.C01
open Model.Scan Model.Run Proofs.Run

variable {σ : Type}

theorem c01_runloop (m : MatcherSem σ) (scan : St) (cfg : Cfg) (hw : cfg.willRun = true)
    (hd : cfg.cwnm = false) (recs : List Rec) (ms : σ) :
    let c := collectRun m scan cfg recs { ms := ms }
    c.1 = c.2.1.matched.map (fun j => recs.getD j []) ∧
    c.2.1.matched.Sublist c.2.1.offered ∧
    c.2.1.offered.Pairwise (· < ·) := by
  rw [collectRun_run hw, hd]
  intro c
  have hinv : Inv _ c.2.1 := runFrom_Inv (Inv_init ms)
  exact ⟨by rw [runFrom_lines_yielded, runFrom_yielded rfl]; rfl, hinv.msub, hinv.off.1⟩

/-- Top level of the interpreter: when no component stops or skips the line, the components are
    evaluated left to right — each in the state its predecessors left — and the line matches
    exactly when all of them hold (logic-mode AND) / any of them holds (logic-mode OR).  `votes`
    is that plain left-to-right evaluation; `Clean` says no expression is reached with the stop
    or skip flag set (the cut itself is C13's clause). -/
theorem c01_toplevel (env : Model.Interp.Env) (prog : List Model.Interp.Node) (v : Model.Interp.View)
    (hc : Proofs.Matcher.Clean env prog v) :
    (Model.Interp.matchLine env prog v).1 =
      (if env.dm then (Proofs.Matcher.votes env prog v).all id else (Proofs.Matcher.votes env prog v).any id) := by
  unfold Model.Interp.matchLine
  rw [Proofs.Matcher.matchExprs_clean env prog v (!env.dm) none hc]
  cases env.dm <;> simp

/-! ### the documented meaning of the comparison and boolean functions, on the model

For integers the `above` family is `>`/`>=` as documented. The `lt` family answers `<=`: that is the
known finding `lt-is-le` (the code computes `<`, drops it and returns `<=`); the theorem states
what the model — and, by the correspondence suite, the code — does, so the finding is on record in
the proofs as well. -/
theorem c01_compare_ints (s : Model.Interp.ES) (a b : Int) :
    Model.Interp.aboveBelow "above" (.int a) (.int b) s = (decide (a > b), s) ∧
    Model.Interp.aboveBelow "gt" (.int a) (.int b) s = (decide (a > b), s) ∧
    Model.Interp.aboveBelow "after" (.int a) (.int b) s = (decide (a > b), s) ∧
    Model.Interp.aboveBelow "gte" (.int a) (.int b) s = (decide (a ≥ b), s) ∧
    Model.Interp.aboveBelow "lte" (.int a) (.int b) s = (decide (a ≤ b), s) ∧
    Model.Interp.aboveBelow "lt" (.int a) (.int b) s = (decide (a ≤ b), s) ∧
    Model.Interp.aboveBelow "below" (.int a) (.int b) s = (decide (a ≤ b), s) ∧
    Model.Interp.aboveBelow "before" (.int a) (.int b) s = (decide (a ≤ b), s) := by
  -- two integers compare as numbers (`floatable`, `pyFloat`): the answer is `cmp (a < b) (a == b)` …
  open Model.Interp Model.Val in
  simp only [aboveBelow, floatable, pyFloat, String.reduceBEq, Bool.or_self, Bool.or_false, Bool.or_true, Bool.not_true,
    Bool.false_eq_true, ↓reduceIte]
  -- … which is `!lt && !eq` for the strict names, `!lt` for `gte`, `lt || eq` for the `lt` family
  have gt : (!decide (a < b) && !(a == b)) = decide (a > b) := by rw [Bool.eq_iff_iff]; simp; omega
  have ge : (!decide (a < b)) = decide (a ≥ b) := by rw [Bool.eq_iff_iff]; simp
  have le : (decide (a < b) || a == b) = decide (a ≤ b) := by rw [Bool.eq_iff_iff]; simp; omega
  rw [gt, ge, le]
  simp only [and_self]

/-- `not(x)` holds exactly when `x` does not -/
theorem c01_not (fuel : Nat) (env : Model.Interp.Env) (id : Nat) (q : List String) (a : Model.Interp.Node)
    (s : Model.Interp.ES) :
    Model.Interp.decideFn (fuel + 1) env id "not" q [a] s =
      (some (!((Model.Interp.evalM fuel env a s).1 == some true)), (Model.Interp.evalM fuel env a s).2) := by
  fn_branch Model.Interp.decideFn

/-- `and(x, y)`: `y` is evaluated (in the state `x` leaves) only when `x` holds; the answer is `y`'s then, `x`'s otherwise -/
theorem c01_and (fuel : Nat) (env : Model.Interp.Env) (id : Nat) (q : List String) (a b : Model.Interp.Node)
    (s : Model.Interp.ES) :
    (Model.Interp.decideFn (fuel + 1) env id "and" q [a, b] s).1 =
      (if (Model.Interp.evalM fuel env a s).1 == some true
       then (Model.Interp.evalM fuel env b (Model.Interp.evalM fuel env a s).2).1
       else (Model.Interp.evalM fuel env a s).1) := by
  fn_branch Model.Interp.decideFn
  -- a fold over the arguments whose accumulator carries "one did not hold": from there on nothing is evaluated
  cases h : (Model.Interp.evalM fuel env a s).1 == some true <;> simp [List.foldl, h]

/-- `or(x, y)` holds exactly when one of them does -/
theorem c01_or (fuel : Nat) (env : Model.Interp.Env) (id : Nat) (q : List String) (a b : Model.Interp.Node)
    (s : Model.Interp.ES) :
    (Model.Interp.decideFn (fuel + 1) env id "or" q [a, b] s).1 =
      some ((Model.Interp.evalM fuel env a s).1 == some true ||
            (Model.Interp.evalM fuel env b (Model.Interp.evalM fuel env a s).2).1 == some true) := by
  fn_branch Model.Interp.decideFn
  -- a fold over the arguments whose accumulator carries "one held": from there on nothing is evaluated
  cases ha : (Model.Interp.evalM fuel env a s).1 == some true <;> simp [List.foldl, ha]
  split <;> simp [*]

/-- string and math functions on arguments that evaluate to strings / integers (whatever the arguments are: cells, variables,
    nested functions): `concat` concatenates, `length` counts characters, `strip` trims, `starts_with` tests the trimmed
    prefix, `add` adds — each in the state its arguments leave, changing nothing itself -/
theorem c01_strings_math (fuel : Nat) (env : Model.Interp.Env) (id : Nat) (q : List String) (a b : Model.Interp.Node)
    (s s1 s2 : Model.Interp.ES) :
    (∀ x y : String, Model.Interp.evalV fuel env a s = (.str x, s1) → Model.Interp.evalV fuel env b s1 = (.str y, s2) →
      Model.Interp.produceFn (fuel + 1) env id "concat" q [a, b] s = (.str (x ++ y), s2) ∧
      Model.Interp.produceFn (fuel + 1) env id "starts_with" q [a, b] s =
        (.bool ((Model.PyStr.strip y).toList.isPrefixOf (Model.PyStr.strip x).toList), s2)) ∧
    (∀ x : String, Model.Interp.evalV fuel env a s = (.str x, s1) →
      Model.Interp.produceFn (fuel + 1) env id "length" q [a] s = (.int x.length, s1) ∧
      Model.Interp.produceFn (fuel + 1) env id "strip" q [a] s = (.str (Model.PyStr.strip x), s1)) ∧
    (∀ x y : Int, Model.Interp.evalV fuel env a s = (.int x, s1) → Model.Interp.evalV fuel env b s1 = (.int y, s2) →
      Model.Interp.produceFn (fuel + 1) env id "add" q [a, b] s = (.flt (x + y), s2)) :=
  ⟨fun _ _ h1 h2 => ⟨Proofs.Funcs.fn_concat h1 h2, Proofs.Funcs.fn_starts_with h1 h2⟩,
   fun _ h1 => ⟨Proofs.Funcs.fn_length h1, Proofs.Funcs.fn_strip h1⟩,
   fun _ _ h1 h2 => Proofs.Funcs.fn_add h1 h2⟩

end Props.C01
