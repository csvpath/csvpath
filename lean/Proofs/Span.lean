/-! Scanning a run: what a `takeWhile`/`dropWhile` loop returns on a run of a class followed by something that
does not go on with it.  The lexers of the match part (`Proofs.Lex`) and of print strings (`Proofs.Print`)
are made of such loops over character classes, each on its own model: hence a module that imports neither. -/
namespace Proofs

/-- Characters that a class tells apart are different.  As a `simp +decide` lemma, with what is known
    of `p c`, it answers each comparison of `c` with a literal on a lexer's way to the branch for `c`. -/
theorem ne_of_class {α : Type} (p : α → Bool) {c x : α} (h : p c ≠ p x) : c ≠ x :=
  fun e => h (e ▸ rfl)

theorem span_run {α : Type} {p : α → Bool} {s r : List α} (hs : ∀ c ∈ s, p c = true)
    (hr : ∀ c, r.head? = some c → p c = false) :
    (s ++ r).takeWhile p = s ∧ (s ++ r).dropWhile p = r := by
  rw [List.takeWhile_append_of_pos hs, List.dropWhile_append_of_pos hs]
  cases r with
  | nil => simp
  | cons x r => simp [hr x rfl]

/-- the run up to a closing delimiter `q`: a string, a comment, a quoted name -/
theorem span_until {α : Type} [BEq α] [LawfulBEq α] {s : List α} {q : α} (r : List α) (hs : ∀ c ∈ s, c ≠ q) :
    (s ++ q :: r).takeWhile (· != q) = s ∧ (s ++ q :: r).dropWhile (· != q) = q :: r :=
  span_run (by simpa using hs) (by simp)

end Proofs
