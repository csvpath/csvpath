import Model.Match
import Spec.Match
import Proofs.Span
/-! Lemmas for C17, character level.  `tokenAt_text` says what `tokenAt` does on the text of a well-formed
token, `piece_step` what the lexer's loop does on the token with the white space before it. -/
namespace Proofs.Lex
open Model.Match Spec.Match

theorem lexGo_skip (pre rest : List Char) : lexGo pre.length (pre ++ rest) = lexGo 0 rest := by
  induction pre with
  | nil => rfl
  | cons c pre ih => simpa [lexGo] using ih

theorem lexGo_ws (gap rest : List Char) (h : ∀ c ∈ gap, isWS c = true) : lexGo 0 (gap ++ rest) = lexGo 0 rest := by
  induction gap with
  | nil => rfl
  | cons c gap ih => simp_all [lexGo]

/-- no token starts with white space, so the two tests of `lexGo` do not overlap -/
theorem tokenAt_ws {c : Char} {cs : List Char} (h : isWS c = true) : tokenAt c cs = none := by
  simp only [isWS, Bool.or_eq_true, beq_iff_eq] at h
  rcases h with (((rfl | rfl) | rfl) | rfl) | rfl <;> rfl

theorem lexGo_tok {c : Char} {tl rest : List Char} {t : Tok} (h : tokenAt c (tl ++ rest) = some (t, tl.length)) :
    lexGo 0 (c :: tl ++ rest) = (lexGo 0 rest).map (t :: ·) := by
  have hw : isWS c = false := Bool.eq_false_iff.2 fun hw => by simp [tokenAt_ws hw] at h
  simp [lexGo, hw, h, lexGo_skip]

theorem alpha_not_digit {c : Char} (hc : c.isAlpha = true) : isDigit c = false := by
  simp only [isDigit, Char.isDigit, Char.isAlpha, Char.isUpper, Char.isLower, Bool.and_eq_true, Bool.or_eq_true,
    decide_eq_true_eq, ge_iff_le, UInt32.le_iff_toNat_le, Bool.and_eq_false_iff, decide_eq_false_iff_not] at hc ⊢
  -- a digit is at most '9', a letter at least 'A'
  have e9 : ('9' : Char).val.toNat = 57 := rfl
  have eA : ('A' : Char).val.toNat = 65 := rfl
  have ea : ('a' : Char).val.toNat = 97 := rfl
  omega

theorem reInner_plain {b : List Char} (rest : List Char) (h : ∀ c ∈ b, c ≠ '/' ∧ c ≠ '\\') :
    ∀ f, b.length < f → reInner f (b ++ '/' :: rest) = some (b.length + 1) := by
  induction b with
  | nil => intro f hf; cases f with | zero => cases hf | succ f => rfl
  | cons c b ih =>
    intro f hf
    cases f with
    | zero => cases hf
    | succ f =>
      obtain ⟨hc, hb⟩ := List.forall_mem_cons.mp h
      simp [reInner, hc, ih hb f (by simpa using hf)]

/-- a digit is alphanumeric, hence a name character -/
theorem not_digit_of_not_name {c : Char} (h : nameCh c = false) : isDigit c = false :=
  Bool.eq_false_iff.2 fun hd => by simp [nameCh, Char.isAlphanum, show c.isDigit = true from hd] at h

/-- what follows a number written without a gap is no digit, no dot and no exponent: all of these are name
    characters -/
theorem after_num {rest : List Char} (hr : ∀ c, rest.head? = some c → nameCh c = false) :
    (∀ c, rest.head? = some c → isDigit c = false) ∧ expLen rest = 0 ∧ ∀ r2, rest ≠ '.' :: r2 := by
  refine ⟨fun c hc => not_digit_of_not_name (hr c hc), ?_⟩
  cases rest with
  | nil => simp [expLen]
  | cons x r => simp +decide [expLen, ne_of_class nameCh, hr x rfl]

theorem numLen_unsigned {s : List Char} (rest : List Char) (hs : WFUnsigned s) (hr : ∀ c, rest.head? = some c → nameCh c = false) :
    numLen (s ++ rest) = s.length := by
  obtain ⟨hd, he, hdot⟩ := after_num hr
  have dot (l : List Char) : ∀ c, ('.' :: l).head? = some c → isDigit c = false := by
    intro c hc; cases hc; rfl
  rcases hs with ⟨ds, fs, hne, hds, hfs, rfl | rfl⟩ | ⟨fs, hne, hfs, rfl⟩
  · have := span_run hds hd
    -- `hdot` (in the context) rules out the branch of `numLen` for a fraction
    simp [numLen, this, hne, he]
  · have h1 := span_run hds (dot (fs ++ rest))
    have h2 := span_run hfs hd
    simp [numLen, h1, h2, hne, he]; omega
  · have h2 := span_run hfs hd
    simp +decide [numLen, h2, hne, he]; omega

theorem unsigned_head {s : List Char} (hs : WFUnsigned s) :
    ∃ c tl, s = c :: tl ∧ (isDigit c = true ∨ c = '.') := by
  rcases hs with ⟨ds, fs, hne, hds, _, hform⟩ | ⟨fs, _, _, rfl⟩
  · obtain ⟨d, ds', rfl⟩ := List.exists_cons_of_ne_nil hne
    rcases hform with rfl | rfl <;> exact ⟨d, _, rfl, Or.inl (hds d (by simp))⟩
  · exact ⟨'.', fs, rfl, Or.inr rfl⟩

theorem tokenAt_text (t : Tok) (body rest : List Char) (hw : WFTok t body)
    (hg : ∀ c, rest.head? = some c → glue t c = false) :
    ∃ c tl, tokText t body = c :: tl ∧ tokenAt c (tl ++ rest) = some (t, tl.length) := by
  cases t with
  | lb | rb | lp | rp | comma => exact ⟨_, [], rfl, rfl⟩
  | equals => exact ⟨_, ['='], rfl, rfl⟩
  | when_ => exact ⟨_, ['>'], rfl, rfl⟩
  | assign =>
    refine ⟨_, [], rfl, ?_⟩
    cases rest with
    | nil => rfl
    | cons x r => have := hg x rfl; simp [glue] at this; simp [tokenAt, this]
  | comment =>
    have := span_until rest hw
    exact ⟨_, body ++ ['~'], rfl, by simp [tokenAt, this]⟩
  | str s =>
    have := span_until rest hw
    exact ⟨_, s ++ ['"'], rfl, by simp [tokenAt, this]⟩
  | «variable» s | reference s =>
    have := span_run hw.2 (by simpa [glue] using hg)
    exact ⟨_, s, rfl, by simp [tokenAt, this, hw.1]⟩
  | header s =>
    rcases hw with ⟨hne, hs⟩ | ⟨b, hne, hb, rfl⟩
    · -- a name holds no quote: not in front, where `tokenAt` looks for a quoted header, nor at the end (`glue`)
      have hq x (hx : x ∈ s) : x ≠ '"' := ne_of_class nameCh (by simp +decide [hs x hx])
      obtain ⟨a, s, rfl⟩ := List.exists_cons_of_ne_nil hne
      have hl : ((a :: s).getLast? != some '"') = true := by
        cases h : (a :: s).getLast? with
        | none => rfl
        | some x => simpa using hq x (List.mem_of_getLast? h)
      have := span_run hs (by simpa [glue, hl] using hg)
      rw [List.cons_append] at this
      exact ⟨_, _, rfl, by simp [tokenAt, hq a, this.1]⟩
    · have := span_run (r := '"' :: rest) hb (by simp +decide)
      exact ⟨_, _, rfl, by simp [tokenAt, this, hne]⟩
  | fname s =>
    obtain ⟨c, r, rfl, hc, hr⟩ := hw
    have := span_run hr (by simpa [glue] using hg)
    exact ⟨c, r, rfl, by simp +decide [tokenAt, ne_of_class Char.isAlpha, hc, alpha_not_digit hc, this]⟩
  | num s =>
    obtain ⟨u, hu, hs⟩ : ∃ u, WFUnsigned u ∧ (s = u ∨ s = '+' :: u ∨ s = '-' :: u) := by
      rcases hw with hu | ⟨u, hu, h⟩
      · exact ⟨s, hu, .inl rfl⟩
      · exact ⟨u, hu, .inr h⟩
    obtain ⟨c, tl, rfl, hc⟩ := unsigned_head hu
    have hn : numLen (c :: (tl ++ rest)) = tl.length + 1 :=
      numLen_unsigned rest hu (by simpa [glue] using hg)
    have ht : (c :: (tl ++ rest)).take (tl.length + 1) = c :: tl := List.take_left' (l₁ := c :: tl) rfl
    rcases hs with rfl | rfl | rfl
    · refine ⟨c, tl, rfl, ?_⟩
      rcases hc with hc | rfl
      · simp +decide [tokenAt, ne_of_class isDigit, hc, hn, ht]
      · simp [tokenAt, hn, ht]
    all_goals
      -- a sign: the digit or dot after it is not the `>` of `->`
      have hgt : c ≠ '>' := by
        rcases hc with hc | rfl
        · exact ne_of_class isDigit (by simp +decide [hc])
        · decide
      exact ⟨_, _, rfl, by simp [tokenAt, hgt, hn, ht]⟩
  | regex s =>
    obtain ⟨b, hb, rfl⟩ := hw
    have hr := reInner_plain rest hb (b.length + (rest.length + 1) + 1) (by omega)
    have ht : (b ++ '/' :: rest).take (b.length + 1) = b ++ ['/'] := by
      simpa using List.take_left' (l₁ := b ++ ['/']) (l₂ := rest) (by simp)
    exact ⟨_, b ++ ['/'], rfl, by simp [tokenAt, hr, ht]⟩

theorem piece_step (p : Piece) (rest : List Char) (hg : ∀ c ∈ p.gap, isWS c = true) (hw : WFTok p.tok p.body)
    (hn : ∀ c, rest.head? = some c → glue p.tok c = false) :
    lexGo 0 (pieceText p ++ rest) = (lexGo 0 rest).map (p.tok :: ·) := by
  obtain ⟨c, tl, ht, h⟩ := tokenAt_text p.tok p.body rest hw hn
  rw [pieceText, List.append_assoc, lexGo_ws _ _ hg, ht]
  exact lexGo_tok h

end Proofs.Lex
