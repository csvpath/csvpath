/-
  References between csvpaths: a lookup in the merged variables of a group, taken member by member.
-/
import Model.Chain

namespace Proofs.Chain
open Model.Chain

theorem lookupVar_append {ν : Type} (a b : List (String × ν)) (name : String) :
    lookupVar (a ++ b) name = (lookupVar a name).or (lookupVar b name) := by
  simp [lookupVar, List.find?_append, Option.map_or]

/-- `get_variables`: the first member that has a name wins -/
theorem lookupVar_mergeVars {ν : Type} (ms : List (List (String × ν))) (name : String) :
    lookupVar (mergeVars ms) name = ms.findSome? (lookupVar · name) := by
  have gen : ∀ vs : List (String × ν),
      lookupVar (ms.foldl (fun vs r => vs ++ r.filter (fun kv => !(vs.any (·.1 == kv.1)))) vs) name
        = (lookupVar vs name).or (ms.findSome? (lookupVar · name)) := by
    induction ms with
    | nil => simp
    | cons r rs ih =>
      intro vs
      rw [List.foldl_cons, ih, lookupVar_append, List.findSome?_cons]
      cases h : lookupVar vs name with
      | some v => rfl
      | none =>
        -- no key of `vs` is `name`, so the filter keeps every entry of `r` under that name
        have hv : ∀ a b, (a, b) ∈ vs → ¬a = name := by simpa [lookupVar] using h
        have : lookupVar (r.filter (fun kv => !(vs.any (·.1 == kv.1)))) name = lookupVar r name := by
          unfold lookupVar
          rw [List.find?_filter]
          congr 2
          funext x
          by_cases hx : x.1 = name
          · simpa [hx] using hv
          · simp [hx]
        rw [this]
        cases lookupVar r name <;> rfl
  exact gen []

end Proofs.Chain
