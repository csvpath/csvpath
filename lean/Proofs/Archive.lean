/-
  The archive of a run.  A saved member's file is looked up by name in `memberFiles`, a list built by `++`, `::`
  and `if` (`fileIn_…`); the serial run in closed form, complete or aborted at a member (`serialFrom_…`).
-/
import Model.Archive

namespace Proofs.Archive
open Model.Archive

variable {ν ε δ : Type}

theorem fileIn_nil (n : String) : fileIn ([] : List (String × Content ν ε)) n = none := rfl

theorem fileIn_cons (k n : String) (v : Content ν ε) (fs : List (String × Content ν ε)) :
    fileIn ((k, v) :: fs) n = if k = n then some v else fileIn fs n := by
  by_cases h : k = n <;> simp [fileIn, h]

theorem fileIn_append (a b : List (String × Content ν ε)) (n : String) :
    fileIn (a ++ b) n = (fileIn a n).or (fileIn b n) := by
  simp [fileIn, List.find?_append, Option.map_or]

theorem fileIn_ite (b : Prop) [Decidable b] (fs gs : List (String × Content ν ε)) (n : String) :
    fileIn (if b then fs else gs) n = if b then fileIn fs n else fileIn gs n :=
  apply_ite (fileIn · n) ..

theorem fileOf_saveMember (H : Content ν ε → δ) (r : MemberResult ν ε) (n : String) :
    fileOf (saveMember H r) n = fileIn (memberFiles r) n := rfl

theorem serialFrom_none (H : Content ν ε → δ) (rs : List (MemberResult ν ε)) :
    ∀ (j : Nat) (acc : List (String × MemberDir ν ε δ)),
      serialFrom H j rs none acc = (acc ++ rs.map (fun r => (r.identity, saveMember H r)), false) := by
  induction rs with
  | nil => intro j acc; simp [serialFrom]
  | cons r rs ih => intro j acc; simp [serialFrom, ih]

theorem serialFrom_abort (H : Content ν ε → δ) (rs : List (MemberResult ν ε)) :
    ∀ (i j : Nat) (acc : List (String × MemberDir ν ε δ)), i < rs.length →
      serialFrom H j rs (some (j + i)) acc =
        (acc ++ (rs.take (i + 1)).map (fun r => (r.identity, saveMember H r)), true) := by
  induction rs with
  | nil => intro i j acc h; cases h
  | cons r rs ih =>
    intro i j acc h
    cases i with
    | zero => simp [serialFrom]
    | succ i =>
      have := ih i (j + 1) (acc ++ [(r.identity, saveMember H r)]) (by simpa using h)
      rw [show j + 1 + i = j + (i + 1) by omega] at this
      simp [serialFrom, this]

end Proofs.Archive
