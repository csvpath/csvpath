import Proofs.PyNorm
import Proofs.RunLoop

/-! For the bridge of the run loop (`Props.RunTie`): the CsvPath object made of the model's loop state (`recon`, `envOf`), what is
    assumed of the world (`Contract`: the matcher may write the five fields a matcher may write and anything outside the loop's own
    fields, so the bridge, like the run-loop theorems, holds for every csvpath), the prelude on the values the loop's fields hold. -/
namespace Proofs.BridgeConsiderLine
open Model.Run Model.Scan

abbrev natV (n : Nat) : Py.V := .int n

def optNatV : Option Nat → Py.V
  | some n => .int n
  | Option.none => .none

def lineV (r : Rec) : Py.V := .strs r

def toNat : Py.V → Nat
  | .int i => i.toNat
  | _ => 0

/-- the CsvPath as `_consider_line` reads it: the loop's own fields come from the model's loop state, everything else from
    what the matcher last left (`ms`) -/
def recon (ctx : Ctx) (ms : Py.Env) (fl : Flags) : Py.Env := fun k =>
  if k = "self.stopped" then .bool fl.stopped
  else if k = "self.advance_count" then natV fl.advance
  else if k = "self.is_valid" then .bool fl.valid
  else if k = "self._freeze_path" then .bool fl.frozen
  else if k = "self.match_count" then natV fl.matchCount
  else if k = "self.scan_count" then natV ctx.scanCount
  else if k = "self._current_match_count" then natV ctx.curMatchCount
  else ms k

def flagsOf (e : Py.Env) : Flags :=
  { stopped := Py.truthy (e "self.stopped"), advance := toNat (e "self.advance_count"), valid := Py.truthy (e "self.is_valid"),
    frozen := Py.truthy (e "self._freeze_path"), matchCount := toNat (e "self.match_count") }

/-- the matcher of the model, made of the world's `matches` -/
def sem (ext : Py.Ext) : MatcherSem Py.Env where
  eval ctx r ms fl :=
    let out := ext "matches" [lineV r] (recon ctx ms fl)
    (Py.isb out.1 (.bool true), out.2, flagsOf out.2)

/-! ### writes of the loop's own fields keep the environment in `recon` form -/

theorem upd_frozen (ctx : Ctx) (ms : Py.Env) (fl : Flags) (b : Bool) :
    Py.upd (recon ctx ms fl) "self._freeze_path" (.bool b) = recon ctx ms { fl with frozen := b } := by
  funext k; unfold Py.upd recon; by_cases h : k = "self._freeze_path" <;> simp only [h, String.reduceEq, if_true, if_false]
theorem upd_stopped (ctx : Ctx) (ms : Py.Env) (fl : Flags) (b : Bool) :
    Py.upd (recon ctx ms fl) "self.stopped" (.bool b) = recon ctx ms { fl with stopped := b } := by
  funext k; unfold Py.upd recon; by_cases h : k = "self.stopped" <;> simp only [h, String.reduceEq, if_true, if_false]
theorem upd_advance (ctx : Ctx) (ms : Py.Env) (fl : Flags) (n : Nat) :
    Py.upd (recon ctx ms fl) "self.advance_count" (natV n) = recon ctx ms { fl with advance := n } := by
  funext k; unfold Py.upd recon; by_cases h : k = "self.advance_count" <;> simp only [h, String.reduceEq, if_true, if_false]
theorem upd_matchCount (ctx : Ctx) (ms : Py.Env) (fl : Flags) (n : Nat) :
    Py.upd (recon ctx ms fl) "self.match_count" (natV n) = recon ctx ms { fl with matchCount := n } := by
  funext k; unfold Py.upd recon; by_cases h : k = "self.match_count" <;> simp only [h, String.reduceEq, if_true, if_false]
theorem upd_scanCount (ctx : Ctx) (ms : Py.Env) (fl : Flags) (n : Nat) :
    Py.upd (recon ctx ms fl) "self.scan_count" (natV n) = recon { ctx with scanCount := n } ms fl := by
  funext k; unfold Py.upd recon; by_cases h : k = "self.scan_count" <;> simp only [h, String.reduceEq, if_true, if_false]
theorem upd_curMatchCount (ctx : Ctx) (ms : Py.Env) (fl : Flags) (n : Nat) :
    Py.upd (recon ctx ms fl) "self._current_match_count" (natV n) = recon { ctx with curMatchCount := n } ms fl := by
  funext k; unfold Py.upd recon; by_cases h : k = "self._current_match_count" <;> simp only [h, String.reduceEq, if_true, if_false]

theorem rd_scan (ctx : Ctx) (ms : Py.Env) (fl : Flags) : recon ctx ms fl "self.scan_count" = natV ctx.scanCount := by
  unfold recon; simp only [String.reduceEq, if_true, if_false]
theorem rd_cur (ctx : Ctx) (ms : Py.Env) (fl : Flags) : recon ctx ms fl "self._current_match_count" = natV ctx.curMatchCount := by
  unfold recon; simp only [String.reduceEq, if_true, if_false]
theorem rd_mc (ctx : Ctx) (ms : Py.Env) (fl : Flags) : recon ctx ms fl "self.match_count" = natV fl.matchCount := by
  unfold recon; simp only [String.reduceEq, if_true, if_false]
theorem rd_adv (ctx : Ctx) (ms : Py.Env) (fl : Flags) : recon ctx ms fl "self.advance_count" = natV fl.advance := by
  unfold recon; simp only [String.reduceEq, if_true, if_false]

/-- `recon` does not look at the `blankLast` mark of the context -/
theorem recon_bl (i : Nat) (e : Option Nat) (sc cm : Nat) (dc dn : Int) (ms : Py.Env) (fl : Flags) :
    recon { idx := i, endIdx := e, blankLast := true, scanCount := sc, curMatchCount := cm, dataCount := dc, dataNumber := dn } ms fl =
    recon { idx := i, endIdx := e, blankLast := false, scanCount := sc, curMatchCount := cm, dataCount := dc, dataNumber := dn } ms fl :=
  rfl

/-- the fields `_consider_line` only reads.  `skip_blank_lines` is taken as True, the constructor's default (the model skips blank
    lines).  The line number is there twice: `_consider_line` reads the property `physical_line_number`, the linked
    `is_last_line_and_blank` the attribute `_physical_line_number` behind it. -/
structure ReadOnly (e : Py.Env) (cwnm : Bool) (endIdx : Option Nat) (i : Nat) : Prop where
  cwnm : e "self.collect_when_not_matched" = .bool cwnm
  skipBlank : e "self.skip_blank_lines" = .bool true
  lineNo : e "self.line_monitor.physical_line_number" = natV i
  lineNo' : e "self.line_monitor._physical_line_number" = natV i
  endNo : e "self.line_monitor._physical_end_line_number" = optNatV endIdx

/-- what the bridge assumes of the world: the scanner answers as the scanner model does; `matches` returns a value, leaves
    the loop's two counters and the read-only fields alone, and leaves well-typed values in the five fields a matcher may
    write -/
structure Contract (ext : Py.Ext) (scan : St) (endIdx : Option Nat) (i : Nat) : Prop where
  includes : ∀ e, (ext "includes" [natV i] e).1 = .bool (includes scan i)
  isLast : ∀ e, (ext "is_last" [natV i] e).1 = .bool (isLast scan endIdx i)
  value : ∀ a e, ∃ v, (ext "matches" a e).1 = v ∧ Py.isExc v = false
  scanCount : ∀ a e, (ext "matches" a e).2 "self.scan_count" = e "self.scan_count"
  curMatch : ∀ a e, (ext "matches" a e).2 "self._current_match_count" = e "self._current_match_count"
  stopped : ∀ a e, ∃ b, (ext "matches" a e).2 "self.stopped" = .bool b
  valid : ∀ a e, ∃ b, (ext "matches" a e).2 "self.is_valid" = .bool b
  frozen : ∀ a e, ∃ b, (ext "matches" a e).2 "self._freeze_path" = .bool b
  advance : ∀ a e, ∃ n : Nat, (ext "matches" a e).2 "self.advance_count" = natV n
  matchCount : ∀ a e, ∃ n : Nat, (ext "matches" a e).2 "self.match_count" = natV n
  readOnly : ∀ a e cwnm, ReadOnly e cwnm endIdx i → ReadOnly (ext "matches" a e).2 cwnm endIdx i

/-- what `_consider_line` only reads is read from the matcher's part of the environment -/
theorem ReadOnly.recon {ms : Py.Env} {cwnm : Bool} {endIdx : Option Nat} {i : Nat} (h : ReadOnly ms cwnm endIdx i)
    (ctx : Ctx) (fl : Flags) : ReadOnly (recon ctx ms fl) cwnm endIdx i := by
  obtain ⟨h1, h2, h3, h4, h5⟩ := h
  constructor <;> simp [Proofs.BridgeConsiderLine.recon, *]

/-- after the matcher ran, its environment is again in `recon` form -/
theorem recon_after (ext : Py.Ext) (scan : St) (endIdx : Option Nat) (i : Nat) (hC : Contract ext scan endIdx i)
    (a : List Py.V) (ctx : Ctx) (ms : Py.Env) (fl : Flags) :
    (ext "matches" a (recon ctx ms fl)).2 =
      recon ctx (ext "matches" a (recon ctx ms fl)).2 (flagsOf (ext "matches" a (recon ctx ms fl)).2) := by
  obtain ⟨b1, h1⟩ := hC.stopped a (recon ctx ms fl)
  obtain ⟨b2, h2⟩ := hC.valid a (recon ctx ms fl)
  obtain ⟨b3, h3⟩ := hC.frozen a (recon ctx ms fl)
  obtain ⟨n4, h4⟩ := hC.advance a (recon ctx ms fl)
  obtain ⟨n5, h5⟩ := hC.matchCount a (recon ctx ms fl)
  have h6 := (hC.scanCount a (recon ctx ms fl)).trans (rd_scan ctx ms fl)
  have h7 := (hC.curMatch a (recon ctx ms fl)).trans (rd_cur ctx ms fl)
  funext k
  have hb : ∀ b, Py.truthy (.bool b) = b := fun _ => rfl
  have hn : ∀ n : Nat, toNat (natV n) = n := fun n => Int.toNat_natCast n
  simp only [recon, flagsOf, h1, h2, h3, h4, h5, hb, hn]
  by_cases e1 : k = "self.stopped"
  · rw [if_pos e1, e1, h1]
  by_cases e2 : k = "self.advance_count"
  · rw [if_neg e1, if_pos e2, e2, h4]
  by_cases e3 : k = "self.is_valid"
  · rw [if_neg e1, if_neg e2, if_pos e3, e3, h2]
  by_cases e4 : k = "self._freeze_path"
  · rw [if_neg e1, if_neg e2, if_neg e3, if_pos e4, e4, h3]
  by_cases e5 : k = "self.match_count"
  · rw [if_neg e1, if_neg e2, if_neg e3, if_neg e4, if_pos e5, e5, h5]
  by_cases e6 : k = "self.scan_count"
  · rw [if_neg e1, if_neg e2, if_neg e3, if_neg e4, if_neg e5, if_pos e6, e6, h6]
  by_cases e7 : k = "self._current_match_count"
  · rw [if_neg e1, if_neg e2, if_neg e3, if_neg e4, if_neg e5, if_neg e6, if_pos e7, e7, h7]
  rw [if_neg e1, if_neg e2, if_neg e3, if_neg e4, if_neg e5, if_neg e6, if_neg e7]

theorem call_matches (ext : Py.Ext) (scan : St) (endIdx : Option Nat) (i : Nat) (hC : Contract ext scan endIdx i)
    (r : Rec) (ctx : Ctx) (ms : Py.Env) (fl : Flags) (effs : List Py.Eff) (k : Py.V → Py.Env → List Py.Eff → Py.H.Res) :
    Py.H.call ext "matches" [lineV r] (recon ctx ms fl) effs k =
      k (ext "matches" [lineV r] (recon ctx ms fl)).1
        (recon ctx (ext "matches" [lineV r] (recon ctx ms fl)).2 (flagsOf (ext "matches" [lineV r] (recon ctx ms fl)).2))
        (effs ++ [{ name := "call matches", args := [lineV r] }]) := by
  obtain ⟨v, hv, hne⟩ := hC.value [lineV r] (recon ctx ms fl)
  rw [← recon_after ext scan endIdx i hC]
  exact Py.H.call_ok [lineV r] rfl (hv ▸ hne)

/-- the matcher's part of the model's next loop state still shows what `_consider_line` only reads: that part is the old one,
    or what the matcher left when called on an environment built over the old one -/
theorem considerLine_readOnly (ext : Py.Ext) (scan : St) (cwnm : Bool) (endIdx : Option Nat) (i : Nat) (r : Rec)
    (st : LoopSt Py.Env) (hC : Contract ext scan endIdx i) (hro : ReadOnly st.ms cwnm endIdx i) :
    ReadOnly (considerLine (sem ext) scan cwnm endIdx i r st).2.ms cwnm endIdx i := by
  have hcall : ∀ c f, ReadOnly ((sem ext).eval c r st.ms f).2.1 cwnm endIdx i := fun c f => hC.readOnly _ _ cwnm (hro.recon c f)
  simp only [considerLine]
  rcases Proofs.Run.considerCore_cases (sem ext) scan endIdx i r st with
    ⟨_, e⟩ | ⟨_, e⟩ | ⟨_, _, _, e⟩ | ⟨b, ms', fl', _, _, _, he, e⟩ <;> rw [e]
  · exact hcall _ _
  · exact hro
  · exact hro
  · have := hcall (mkCtx i endIdx false (offer i st)) st.fl
    rwa [he] at this

/-- the environment of the model's loop state -/
def envOf (endIdx : Option Nat) (i : Nat) (st : LoopSt Py.Env) : Py.Env := recon (mkCtx i endIdx false st) st.ms st.fl

/-- what a run of a translated method returned and left behind (the effect log aside) -/
def okVE : Py.H.Res → Option (Py.V × Py.Env)
  | .ok v e _ => some (v, e)
  | .raised _ _ _ => Option.none

/-! ### the prelude on the values the loop's fields hold -/

theorem add_one (n : Nat) : Py.add (natV n) (Py.V.int 1) = natV (n + 1) := Py.add_int n 1
theorem sub_one (n : Nat) (h : 0 < n) : Py.sub (natV n) (Py.V.int 1) = natV (n - 1) :=
  (Py.sub_int n 1).trans (congrArg Py.V.int (by omega))
theorem eq_optNat (e : Option Nat) (i : Nat) : Py.eq (optNatV e) (natV i) = .bool (e == some i) :=
  match e with
  | none => rfl
  | some n => Py.eq_nat n i
theorem len_line_eq_zero (r : Rec) : Py.eq (Py.len (lineV r)) (.int 0) = .bool r.isEmpty := Py.len_strs_eq_zero r

theorem gt_zero (n : Nat) : Py.gt (natV n) (Py.V.int 0) = .bool (decide (0 < n)) := Py.gt_nat_zero n
theorem eq_nat (a b : Nat) : Py.eq (natV a) (natV b) = .bool (a == b) := Py.eq_nat a b
theorem len_line (r : Rec) : Py.len (lineV r) = .int r.length := rfl
theorem is_true (v : Py.V) (h : Py.isExc v = false) : Py.is_ v (.bool true) = .bool (Py.isb v (.bool true)) := Py.is_bool h
theorem isExc_natV (n : Nat) : Py.isExc (natV n) = false := rfl
theorem isExc_bool (b : Bool) : Py.isExc (Py.V.bool b) = false := rfl

/-! ### the statements `_consider_line` is made of -/

theorem cond_bool (b : Bool) (env : Py.Env) (effs : List Py.Eff) (x y : Py.H.Res) :
    Py.H.cond (.bool b) env effs x y = if b = true then x else y := Py.H.cond_bool b env effs x y
theorem letv_ok (v : Py.V) (env : Py.Env) (effs : List Py.Eff) (k : Py.V → Py.H.Res) (h : Py.isExc v = false) :
    Py.H.letv v env effs k = k v := Py.H.letv_ok h
theorem oracle1 (ext : Py.Ext) (name : String) (n : Nat) (env : Py.Env) :
    Py.H.oracle ext name [natV n] env = (ext name [natV n] env).1 := rfl
theorem setattr_eq (path : String) (v : Py.V) (env : Py.Env) (effs : List Py.Eff) (k : Py.Env → List Py.Eff → Py.H.Res)
    (h : Py.isExc v = false) :
    Py.H.setattr path v env effs k = k (Py.upd env path v) (effs ++ [{ name := "set " ++ path, args := [v] }]) :=
  Py.H.setattr_ok h
theorem setattr_bool (path : String) (b : Bool) (env : Py.Env) (effs : List Py.Eff) (k : Py.Env → List Py.Eff → Py.H.Res) :
    Py.H.setattr path (.bool b) env effs k = k (Py.upd env path (.bool b)) (effs ++ [{ name := "set " ++ path, args := [.bool b] }]) := rfl
theorem setattr_nat (path : String) (n : Nat) (env : Py.Env) (effs : List Py.Eff) (k : Py.Env → List Py.Eff → Py.H.Res) :
    Py.H.setattr path (natV n) env effs k = k (Py.upd env path (natV n)) (effs ++ [{ name := "set " ++ path, args := [natV n] }]) := rfl
theorem setattr_int (path : String) (z : Int) (env : Py.Env) (effs : List Py.Eff) (k : Py.Env → List Py.Eff → Py.H.Res) :
    Py.H.setattr path (.int z) env effs k = k (Py.upd env path (.int z)) (effs ++ [{ name := "set " ++ path, args := [.int z] }]) := rfl

/-- a step of the symbolic run: `py_eval`, reads and writes of the loop's own fields, the prelude on their values, and what the case
    at hand adds -/
macro "cl_norm" "[" ts:Lean.Parser.Tactic.simpLemma,* "]" loc:(Lean.Parser.Tactic.location)? : tactic => `(tactic|
  simp only [py_eval, rd_scan, rd_cur, rd_mc, rd_adv, upd_scanCount, upd_curMatchCount, upd_advance, upd_stopped, upd_matchCount,
    upd_frozen, add_one, Py.gt_nat_zero, Py.eq_nat, eq_optNat, len_line_eq_zero, $ts,*] $[$loc]?)

end Proofs.BridgeConsiderLine
