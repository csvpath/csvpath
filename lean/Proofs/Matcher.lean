import Model.Matcher
import Proofs.RunLoop

/-! The top level of the interpreter model (`Model.Interp.matchLine`): what a line does to the validity flag (`effectsOf`, C04) and
    its verdict when no component is cut (`votes`, `Clean`, C01).  Then validity over a run: it never returns under a matcher that
    keeps `ValidMono` (`runFrom_validMono`, by `Proofs.Run.runFrom_invariant`), and the interpreter does (`interp_validMono`). -/
namespace Proofs.Matcher
open Model.Interp Model.Val Model.Run Proofs.Run

def isInvalid : Effect → Bool
  | .invalid => true
  | _ => false

def isStop : Effect → Bool
  | .stop => true
  | _ => false

theorem applyEff_valid (v : View) (e : Effect) : (applyEff v e).valid = (v.valid && !isInvalid e) := by
  cases e <;> simp [applyEff, isInvalid]

theorem applyAll_valid (es : List Effect) : ∀ (v : View), (applyAll v es).valid = (v.valid && !es.any isInvalid) := by
  induction es with
  | nil => intro v; simp [applyAll]
  | cons e es ih =>
    intro v
    have := ih (applyEff v e)
    simp only [applyAll, List.foldl_cons] at this ⊢
    simp [this, applyEff_valid, Bool.and_assoc]

theorem applyEff_stopped (v : View) (e : Effect) : (applyEff v e).stopped = (v.stopped || isStop e) := by
  cases e <;> simp [applyEff, isStop]

theorem applyAll_stopped (es : List Effect) : ∀ (v : View), (applyAll v es).stopped = (v.stopped || es.any isStop) := by
  induction es with
  | nil => intro v; simp [applyAll]
  | cons e es ih =>
    intro v
    have := ih (applyEff v e)
    simp only [applyAll, List.foldl_cons] at this ⊢
    simp [this, applyEff_stopped, Bool.or_assoc]

/-- the effects a line has, following the same cut as `matchExprs` -/
def effectsOf (env : Env) : List Node → View → List Effect
  | [], _ => []
  | e :: es, v =>
    if v.stopped then []
    else if v.skip then []
    else
      let r := evalExpr env v e
      r.2.1 ++ effectsOf env es (applyAll v r.2.1)

theorem matchExprs_valid (env : Env) : ∀ (es : List Node) (v : View) (f : Bool) (b : Option String),
    (matchExprs env es v f b).2.1.valid = (v.valid && !(effectsOf env es v).any isInvalid) := by
  intro es
  induction es with
  | nil => intro v f b; cases hk : v.skip <;> simp [matchExprs, effectsOf, hk]
  | cons e es ih =>
    intro v f b
    cases hs : v.stopped <;> cases hk : v.skip <;>
      simp [matchExprs, effectsOf, hs, hk, ih, applyAll_valid, Bool.and_assoc]

/-! `matchExprs` on `e :: es`, clause by clause: stopped, skipped, neither. -/

theorem matchExprs_stopped (env : Env) (e : Node) (es : List Node) (v : View) (f : Bool) (b : Option String)
    (h : v.stopped = true) : matchExprs env (e :: es) v f b = (false, v, b) := by
  simp [matchExprs, h]

theorem matchExprs_skip (env : Env) (e : Node) (es : List Node) (v : View) (f : Bool) (b : Option String)
    (hs : v.stopped = false) (h : v.skip = true) :
    matchExprs env (e :: es) v f b = (false, { v with skip := false }, b) := by
  simp [matchExprs, hs, h]

/-- the component's effects are applied and its vote folded into `failed` (`== some false`: it voted False) -/
theorem matchExprs_step (env : Env) (e : Node) (es : List Node) (v : View) (f : Bool) (b : Option String)
    (hs : v.stopped = false) (hk : v.skip = false) :
    matchExprs env (e :: es) v f b =
      matchExprs env es (applyAll v (evalExpr env v e).2.1)
        (if env.dm then f || ((evalExpr env v e).1 == some false) else f && ((evalExpr env v e).1 == some false))
        (b.or (evalExpr env v e).2.2) := by
  simp [matchExprs, hs, hk]

/-- sequential evaluation without any cut: the vote of every expression, each evaluated in the
    view its predecessors left -/
def votes (env : Env) : List Node → View → List Bool
  | [], _ => []
  | e :: es, v =>
    let r := evalExpr env v e
    (!(r.1 == some false)) :: votes env es (applyAll v r.2.1)

/-- no expression is reached with the stop or skip flag set -/
def Clean (env : Env) : List Node → View → Prop
  | [], v => v.skip = false
  | e :: es, v => v.stopped = false ∧ v.skip = false ∧ Clean env es (applyAll v (evalExpr env v e).2.1)

theorem matchExprs_clean (env : Env) : ∀ (es : List Node) (v : View) (f : Bool) (b : Option String),
    Clean env es v →
    (matchExprs env es v f b).1 =
      (if env.dm then (!f && (votes env es v).all id) else (!f || (votes env es v).any id)) := by
  intro es
  induction es with
  | nil => intro v f b hc; simp only [Clean] at hc; cases env.dm <;> simp [matchExprs, votes, hc]
  | cons e es ih =>
    intro v f b hc
    obtain ⟨hs, hk, hrest⟩ := hc
    rw [matchExprs_step env e es v f b hs hk, ih _ _ _ hrest]
    simp only [votes, List.all_cons, List.any_cons, id]
    generalize (votes env es (applyAll v (evalExpr env v e).2.1)).all id = qa
    generalize (votes env es (applyAll v (evalExpr env v e).2.1)).any id = qo
    cases env.dm <;> cases f <;> cases ((evalExpr env v e).1 == some false) <;> cases qa <;> cases qo <;> rfl

/-- a matcher that never sets the validity flag back to True -/
def ValidMono {σ : Type} (m : MatcherSem σ) : Prop :=
  ∀ ctx r s fl, (m.eval ctx r s fl).2.2.valid = true → fl.valid = true

theorem considerCore_validMono {σ : Type} {m : MatcherSem σ} (hm : ValidMono m) {scan : Model.Scan.St}
    {endIdx : Option Nat} {i : Nat} {r : Rec} {st st' : LoopSt σ} {o : Option Bool}
    (hc : considerCore m scan endIdx i r st = (o, st')) (h : st'.fl.valid = true) : st.fl.valid = true := by
  rcases considerCore_cases m scan endIdx i r st with
    ⟨_, e⟩ | ⟨_, e⟩ | ⟨_, _, _, e⟩ | ⟨b, ms', fl', _, _, _, he, e⟩ <;> cases e.symm.trans hc
  · exact hm _ _ _ (freeze st).fl h
  · exact h
  · exact h
  · exact hm (mkCtx i endIdx false (offer i st)) r st.ms st.fl (by rw [he]; exact h)

theorem runFrom_validMono {σ : Type} {m : MatcherSem σ} (hm : ValidMono m) {scan : Model.Scan.St} {cwnm ku : Bool}
    {endIdx budget : Option Nat} {i : Nat} {recs : List Rec} {st : LoopSt σ} {acc : Acc}
    (h : (runFrom m scan cwnm ku endIdx budget i recs st acc).2.1.fl.valid = true) : st.fl.valid = true := by
  obtain ⟨_, _, _, h'⟩ := runFrom_invariant m scan cwnm ku endIdx
    (P := fun _ _ s _ => s.fl.valid = true → st.fl.valid = true) id recs i
    (fun i r _ s _ _ _ h hv => h (considerCore_validMono hm (st := trackLine i r s) rfl hv)) budget [] st acc id
  exact h' h

theorem interp_validMono : ValidMono interpMatcher := by
  intro ctx r s fl h
  simp only [interpMatcher] at h
  split at h
  · -- blank last line: `doLasts` folds `applyAll` over the `last()`s, and validity can only fall
    have gen : ∀ f : View × Option String → Node → View × Option String,
        (∀ acc n, (f acc n).1.valid = true → acc.1.valid = true) →
        ∀ (ns : List Node) acc, (ns.foldl f acc).1.valid = true → acc.1.valid = true := by
      intro f hf ns
      induction ns with
      | nil => exact fun _ hh => hh
      | cons n ns ih => exact fun acc hh => hf acc n (ih _ hh)
    exact gen _ (fun acc n hv => by simp only [applyAll_valid, Bool.and_eq_true] at hv; exact hv.1) _ _ h
  · simp only [matchLine, matchExprs_valid, Bool.and_eq_true] at h
    exact h.1

end Proofs.Matcher
