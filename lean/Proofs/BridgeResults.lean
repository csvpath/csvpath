import Proofs.PyNorm

/-! For the bridge of `ResultsManager.is_valid` and `has_lines` (`Props.ResultsTie`): the loop that searches, and the results of
    a group as an object list of the world, given as arbitrary lists. -/
namespace Proofs.BridgeResults

/-- a loop that answers `hit` at the first element with `P` and `miss` if there is none -/
theorem search_loop {α : Type} (e : Py.Env) (xs : List α) (P : α → Bool) (hit miss : Bool)
    (body : Nat → List Py.V → Py.Env → List Py.Eff → Py.H.K → Py.H.K → Py.H.Res) (k : Py.H.K)
    (hb : ∀ idx (h : idx < xs.length) locs effs (next brk : Py.H.K),
      ∃ locs', body idx locs e effs next brk = if P xs[idx] then .ok (.bool hit) e effs else next locs' e effs)
    (hk : ∀ locs effs, k locs e effs = .ok (.bool miss) e effs) (locs : List Py.V) (effs : List Py.Eff) :
    Py.H.forGo body k xs.length 0 locs e effs = .ok (.bool (if xs.any P then hit else miss)) e effs := by
  refine Py.H.forGo_rule (n := xs.length)
    (fun idx _ env effs res => e = env → res = .ok (.bool (if (xs.drop idx).any P then hit else miss)) e effs)
    ?_ ?_ xs.length 0 (Nat.zero_add _) locs e effs rfl
  · rintro locs _ effs rfl
    rw [hk, List.drop_length]; rfl
  · rintro idx hlt locs _ effs next ih rfl
    obtain ⟨locs', hb'⟩ := hb idx hlt locs effs next k
    rw [hb', List.drop_eq_getElem_cons hlt, List.any_cons]
    cases P xs[idx]
    · exact ih locs' e effs rfl
    · rfl

/-- the environment shows the members' verdicts -/
structure ShowsValid (e : Py.Env) (vs : List Bool) : Prop where
  len : e "len(results)" = .int vs.length
  valid : ∀ i (h : i < vs.length), e (Py.ikey "results" i ".is_valid") = .bool vs[i]

/-- the environment shows the members' collected lines (as many cells as matter here: the number of lines) -/
structure ShowsLines (e : Py.Env) (ls : List (List String)) : Prop where
  len : e "len(results)" = .int ls.length
  lines : ∀ i (h : i < ls.length), e (Py.ikey "results" i ".lines") = .strs ls[i]

end Proofs.BridgeResults
