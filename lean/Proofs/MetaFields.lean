import Model.Metadata
/-! `collect_metadata` reads back the fields written as `key: value` in a comment. -/
namespace Proofs.MetaFields
open Model.Meta

/-- a character of a key: `isalnum()`, `-` or `_`, and not a colon, not white space -/
def keyCh (x : MChar) : Bool := (x.alnum || x.c == '-' || x.c == '_') && x.c != ':' && !x.space && !isWs x

/-- white space between fields: one of the four characters the collector knows, which `strip` removes -/
def sepCh (x : MChar) : Bool := isWs x && x.space && !(x.alnum || x.c == '-' || x.c == '_') && x.c != ':'

/-- any character of a value except a colon -/
def valCh (x : MChar) : Bool := x.c != ':'

structure Field where
  key : MStr
  ws : MStr      -- white space after the colon
  val : MStr
  sep : MStr     -- white space after the value
  deriving Repr

def renderF (colon : MChar) (f : Field) : MStr := f.key ++ [colon] ++ f.ws ++ f.val ++ f.sep

def render (colon : MChar) (fs : List Field) : MStr := (fs.map (renderF colon)).flatten

/-- a field as the property's quantifier writes it -/
structure WFField (f : Field) : Prop where
  key_ne : f.key ≠ []
  key_ok : ∀ x ∈ f.key, keyCh x = true
  ws_ok : ∀ x ∈ f.ws, sepCh x = true
  val_ok : ∀ x ∈ f.val, valCh x = true
  val_head : ∃ c rest, f.val = c :: rest ∧ isWs c = false
  sep_ok : ∀ x ∈ f.sep, sepCh x = true
  strip_val : strip (f.val ++ f.sep) = f.val
  strip_key : strip f.key = f.key

/-- every field but the last is followed by white space -/
def Separated : List Field → Prop
  | [] => True
  | [_] => True
  | f :: g :: rest => f.sep ≠ [] ∧ Separated (g :: rest)

/-- text before the first field: any characters but a colon, ending in white space (or nothing) -/
def FreeOK (free : MStr) : Prop :=
  (∀ x ∈ free, (x.c == ':') = false) ∧ (free = [] ∨ ∃ init last, free = init ++ [last] ∧ sepCh last = true)

/-- the test of `collect_metadata` for a character of `current_word` -/
abbrev wordCh (x : MChar) : Bool := x.alnum || x.c == '-' || x.c == '_'

theorem key_val_word {x : MChar} (h : keyCh x = true) : valCh x = true ∧ wordCh x = true := by
  simp [keyCh] at h
  simp [valCh, h]

theorem sep_val_noword_ws {x : MChar} (h : sepCh x = true) :
    valCh x = true ∧ wordCh x = false ∧ isWs x = true := by
  simp [sepCh] at h
  simp [valCh, h]

/-! ### `current_word`: the run of word characters read last

It depends on the text alone, not on the rest of the collector's state. -/

def wordStep (w : MStr) (x : MChar) : MStr := if wordCh x then w ++ [x] else []

/-- `current_word` after a text without colon -/
def wordRun (w t : MStr) : MStr := t.foldl wordStep w

theorem wordRun_key (k : MStr) (hk : ∀ x ∈ k, keyCh x = true) (w : MStr) : wordRun w k = w ++ k := by
  induction k generalizing w with
  | nil => simp [wordRun]
  | cons x xs ih =>
    obtain ⟨hx, hk⟩ := List.forall_mem_cons.mp hk
    simpa [wordRun, wordStep, (key_val_word hx).2] using ih hk (w ++ [x])

theorem wordRun_sep (t sep : MStr) (hs : ∀ x ∈ sep, sepCh x = true) (hne : sep ≠ []) (w : MStr) :
    wordRun w (t ++ sep) = [] := by
  rw [wordRun, List.foldl_append]
  generalize t.foldl wordStep w = w'
  induction sep generalizing w' with
  | nil => exact absurd rfl hne
  | cons x xs ih =>
    obtain ⟨hx, hs⟩ := List.forall_mem_cons.mp hs
    rw [List.foldl_cons, wordStep, (sep_val_noword_ws hx).2.1]
    cases xs with
    | nil => rfl
    | cons y ys => exact ih hs (by simp) _

/-! ### the collector's state, and what a text without colon does to it -/

/-- `word`, the closed fields `F`, and the open field if there is one: its name and what was read
    of it so far (`metaname`, `metafield`).  Right after a colon the name is set and the field is not
    yet: that state is not of this form and is written out (`step_colon`, `fold_open`). -/
def St (w : MStr) (F : List (MStr × Option MStr)) (pend : Option (MStr × MStr)) : CSt :=
  { word := w, fields := F, name := pend.map (·.1), field := pend.map (·.2) }

/-- the open field is stored: what the next colon, or the end of the comment, does -/
def close (F : List (MStr × Option MStr)) : Option (MStr × MStr) → List (MStr × Option MStr)
  | none => F
  | some (nm, fld) => dictSet F nm (some (strip fld))

theorem step_text (x : MChar) (hx : valCh x = true) (w : MStr) (F : List (MStr × Option MStr))
    (pend : Option (MStr × MStr)) :
    collectStep (St w F pend) x = St (wordStep w x) F (pend.map fun p => (p.1, p.2 ++ [x])) := by
  simp only [valCh, bne_iff_ne, ne_eq] at hx
  cases pend <;> by_cases hw : wordCh x = true <;> by_cases hs : isWs x = true <;>
    simp [collectStep, St, wordStep, hx, hw, hs]

theorem fold_text (t : MStr) (ht : ∀ x ∈ t, valCh x = true) (w : MStr) (F : List (MStr × Option MStr))
    (pend : Option (MStr × MStr)) :
    t.foldl collectStep (St w F pend) = St (wordRun w t) F (pend.map fun p => (p.1, p.2 ++ t)) := by
  induction t generalizing w pend with
  | nil => cases pend <;> simp [wordRun]
  | cons x xs ih =>
    obtain ⟨hx, ht⟩ := List.forall_mem_cons.mp ht
    rw [List.foldl_cons, step_text x hx, ih ht]
    cases pend <;> simp [wordRun]

/-- `metafield[0 : len(metafield) - len(current_word)]`: the key just read is cut off the field before it -/
theorem take_left (a b : MStr) : (a ++ b).take ((a ++ b).length - b.length) = a := by
  simp

/-- the colon after a key `w`: the open field, which the key went into as well, is stored without
    it, and `w` names the next one -/
theorem step_colon (colon : MChar) (hc : colon.c = ':') (w : MStr) (F : List (MStr × Option MStr))
    (pend : Option (MStr × MStr)) :
    collectStep (St w F (pend.map fun p => (p.1, p.2 ++ w))) colon =
      { word := [], fields := close F pend, name := some (strip w), field := none } := by
  cases pend <;> simp only [collectStep, St, close, hc, take_left, BEq.rfl, ↓reduceIte, Option.map_none,
    Option.map_some, Option.getD_some]

theorem fold_open (ws : MStr) (hws : ∀ x ∈ ws, sepCh x = true) (c : MChar) (hc : valCh c = true)
    (hcw : isWs c = false) (nm : MStr) (F : List (MStr × Option MStr)) :
    (ws ++ [c]).foldl collectStep { word := [], fields := F, name := some nm, field := none } =
      St (wordStep [] c) F (some (nm, [c])) := by
  induction ws with
  | nil =>
    simp only [valCh, bne_iff_ne, ne_eq] at hc
    by_cases hw : wordCh c = true <;> simp [collectStep, St, wordStep, hc, hw, hcw]
  | cons x xs ih =>
    obtain ⟨hx, hws⟩ := List.forall_mem_cons.mp hws
    obtain ⟨h1, h2, h3⟩ := sep_val_noword_ws hx
    simp only [valCh, bne_iff_ne, ne_eq] at h1
    rw [← ih hws]
    simp [collectStep, h1, h2, h3]

/-- a field read with `word` empty: the field before it is stored, this one is open and holds its
    value and the white space after it -/
theorem field_step (colon : MChar) (hc : colon.c = ':') (f : Field) (hf : WFField f)
    (F : List (MStr × Option MStr)) (pend : Option (MStr × MStr)) :
    (renderF colon f).foldl collectStep (St [] F pend) =
      St (wordRun [] (f.val ++ f.sep)) (close F pend) (some (f.key, f.val ++ f.sep)) := by
  obtain ⟨c, rest, hval, hcws⟩ := hf.val_head
  obtain ⟨hvc, hvr⟩ := List.forall_mem_cons.mp fun x (hx : x ∈ c :: (rest ++ f.sep)) =>
    (List.mem_append.mp (show x ∈ f.val ++ f.sep by simpa [hval] using hx)).elim (hf.val_ok x)
      (fun h => (sep_val_noword_ws (hf.sep_ok x h)).1)
  have e : renderF colon f = f.key ++ colon :: ((f.ws ++ [c]) ++ (rest ++ f.sep)) := by simp [renderF, hval]
  rw [e, List.foldl_append, fold_text f.key (fun x hx => (key_val_word (hf.key_ok x hx)).1),
    wordRun_key f.key hf.key_ok, List.foldl_cons, List.nil_append, step_colon colon hc, hf.strip_key,
    List.foldl_append, fold_open f.ws hf.ws_ok c hvc hcws, fold_text _ hvr, hval]
  rfl

/-- Fields written after a text `pre` are assigned to the dict in turn, after the field that `pre`
    left open. `word` has to be empty where a key begins, hence `Separated`. -/
theorem collect_after (colon : MChar) (hc : colon.c = ':') (fs : List Field) (hwf : ∀ f ∈ fs, WFField f)
    (hsep : Separated fs) (pre w : MStr) (F : List (MStr × Option MStr)) (pend : Option (MStr × MStr))
    (hpre : pre.foldl collectStep {} = St w F pend) (hw : fs ≠ [] → w = []) (hp : ∀ p ∈ pend, p.1 ≠ []) :
    collect (pre ++ render colon fs) =
      (fs.map fun f => (f.key, some f.val)).foldl (fun G kv => dictSet G kv.1 kv.2) (close F pend) := by
  induction fs generalizing pre w F pend with
  | nil =>
    rw [render, List.map_nil, List.flatten_nil, List.append_nil, collect, hpre]
    cases pend with
    | none => rfl
    | some p => simp [St, close, hp p rfl]
  | cons f rest ih =>
    obtain ⟨hf, hwf⟩ := List.forall_mem_cons.mp hwf
    cases hw (List.cons_ne_nil _ _)
    have hrest : Separated rest ∧ (rest ≠ [] → f.sep ≠ []) := by
      cases rest with
      | nil => exact ⟨trivial, (absurd rfl ·)⟩
      | cons g gs => exact ⟨hsep.2, fun _ => hsep.1⟩
    have e : pre ++ render colon (f :: rest) = (pre ++ renderF colon f) ++ render colon rest := by simp [render]
    rw [e, ih hwf hrest.1 (pre ++ renderF colon f) _ _ _
      (by rw [List.foldl_append, hpre, field_step colon hc f hf])
      (fun h => wordRun_sep _ _ hf.sep_ok (hrest.2 h) _) (by simpa using hf.key_ne)]
    simp [close, hf.strip_val]

/-- a comment made of free text followed by `key: value` fields yields those fields, values trimmed,
    assigned in the order they are written (a key written twice keeps its first place and takes its
    last value, as in Python) -/
theorem collect_dict (colon : MChar) (hc : colon.c = ':') (free : MStr) (fs : List Field)
    (hfree : FreeOK free) (hwf : ∀ f ∈ fs, WFField f) (hsep : Separated fs) :
    collect (free ++ render colon fs) =
      (fs.map fun f => (f.key, some f.val)).foldl (fun G kv => dictSet G kv.1 kv.2) [] := by
  refine collect_after colon hc fs hwf hsep free (wordRun [] free) [] none
    (fold_text free (fun x hx => by simpa [valCh] using hfree.1 x hx) [] [] none) (fun _ => ?_) (by simp)
  rcases hfree.2 with rfl | ⟨init, last, rfl, hl⟩
  · rfl
  · exact wordRun_sep init [last] (by simpa using hl) (by simp) []

theorem dictSet_fresh (F : List (MStr × Option MStr)) (k : MStr) (v : Option MStr) (h : k ∉ F.map (·.1)) :
    dictSet F k v = F ++ [(k, v)] := by
  induction F with
  | nil => rfl
  | cons p F ih =>
    simp only [List.map_cons, List.mem_cons, not_or] at h
    simp [dictSet, Ne.symm h.1, ih h.2]

theorem foldl_dictSet (kvs F : List (MStr × Option MStr)) (h : ((F ++ kvs).map (·.1)).Nodup) :
    kvs.foldl (fun G kv => dictSet G kv.1 kv.2) F = F ++ kvs := by
  induction kvs generalizing F with
  | nil => simp
  | cons kv kvs ih =>
    have h' : ((F ++ [kv] ++ kvs).map (·.1)).Nodup := by simpa using h
    have hnew : kv.1 ∉ F.map (·.1) := by
      rw [List.map_append, List.nodup_append] at h
      exact fun hm => h.2.2 _ hm _ (List.mem_cons_self ..) rfl
    rw [List.foldl_cons, dictSet_fresh F _ _ hnew, ih _ h', List.append_assoc]; rfl

end Proofs.MetaFields
