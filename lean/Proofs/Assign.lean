/-
  The assignment decision of equality.py against the documented decision list.  The list of
  `Spec.Assign.assign` is cut where the code's three functions meet (`guardSpec`, `latchSpec`, and
  the `onmatch` gate with the vote's post-processing around them); each function is shown equal to
  its part, so no case analysis ever ranges over more than the conditions one function tests.
-/
import Model.Assign
import Spec.Assign

namespace Proofs.Assign
open Model.Assign
open Spec.Assign (goesUp goesDown)

theorem int_le (a b : Int) : decide (a ≤ b) = !decide (b < a) := by
  simp only [← decide_not, Int.not_lt]
theorem str_le (a b : String) : decide (a ≤ b) = !decide (b < a) := by
  simp only [← decide_not, String.not_lt]

/-- Python can order the two values: `ge?`/`le?` raise TypeError on an int against a str -/
def comparable : Val → Val → Bool
  | .int _, .str _ => false
  | .str _, .int _ => false
  | _, _ => true

/-- under `increase`/`decrease` the new value is None or truthy: not 0, not "" (see `incBlock_eq`) -/
def inQuantifier (q : Quals) (y : Val) : Bool :=
  !(q.increase || q.decrease) || y == .none || truthy y

/-- the part of the decision list that `_set_variable_if` decides -/
def guardSpec (q : Quals) (ret : Bool) (cur y : Val) : Option Val × Bool :=
  if q.notnone && y == .none then (none, !ret)
  else if q.increase && !goesUp cur y then (none, !ret)
  else if q.decrease && !goesDown cur y then (none, !ret)
  else (some y, ret)

/-- the part that `_latch_and_onchange` decides before it -/
def latchSpec (q : Quals) (dm : Bool) (cur y : Val) : Option Val × Bool :=
  if (q.latch || q.onchange) && cur == y then (none, if q.onchange then !dm else dm)
  else if q.latch && cur != .none then (none, dm)
  else guardSpec q dm cur y

theorem spec_eq (q : Quals) (cur y : Val) (rest dm : Bool) :
    Spec.Assign.assign q cur y rest dm =
      let base := if q.onmatch && !rest then (none, !dm) else latchSpec q dm cur y
      (base.1, if q.nocontrib then dm else if q.asbool && base.2 == dm then asbool y else base.2) :=
  rfl

/-- The `increase` block of `_set_variable_if` (`b` is the qualifier) blocks exactly when the value
    would not go up.  The falsy new values 0 and "" are shut out by `hy`: the code blocks them even
    as a first value (`Props.C14.c14_outside_quantifier`). -/
theorem incBlock_eq {b : Bool} {cur y : Val} (hc : comparable cur y = true)
    (hy : b = true → (y == .none || truthy y) = true) :
    (if !b then some false
      else if (!truthy cur && !truthy y) || !truthy y then some true
      else if cur == .none then some false
      else ge? cur y) = some (b && !goesUp cur y) := by
  cases b
  · rfl
  · have hy := hy rfl
    -- `hc` shuts out int against str (where `ge?` raises), `hy` a new value 0 or ""; with `none` on either side nothing is compared
    cases cur <;> cases y <;>
      simp [comparable, truthy, ge?, goesUp, int_le, str_le] at hc hy ⊢ <;> simp [hy]

theorem decBlock_eq {b : Bool} {cur y : Val} (hc : comparable cur y = true)
    (hy : b = true → (y == .none || truthy y) = true) :
    (if !b then some false
      else if (!truthy cur && !truthy y) || !truthy y then some true
      else if cur == .none then some false
      else le? cur y) = some (b && !goesDown cur y) := by
  cases b
  · rfl
  · have hy := hy rfl
    cases cur <;> cases y <;>
      simp [comparable, truthy, le?, goesDown, int_le, str_le] at hc hy ⊢ <;> simp [hy]

theorem setVariableIf_eq (q : Quals) (ret : Bool) (cur y : Val)
    (hc : comparable cur y = true) (hq : inQuantifier q y = true) :
    setVariableIf q ret cur y = .ok (guardSpec q ret cur y).1 (guardSpec q ret cur y).2 := by
  have hi : q.increase = true → (y == .none || truthy y) = true := by
    intro h; simpa [inQuantifier, h] using hq
  have hd : q.decrease = true → (y == .none || truthy y) = true := by
    intro h; simpa [inQuantifier, h] using hq
  simp only [setVariableIf, incBlock_eq hc hi, decBlock_eq hc hd, guardSpec]
  cases q.notnone && y == .none <;> cases q.increase && !goesUp cur y <;>
    cases q.decrease && !goesDown cur y <;> rfl

theorem latchAndOnchange_eq (q : Quals) (dm : Bool) (cur y : Val)
    (hc : comparable cur y = true) (hq : inQuantifier q y = true) :
    (if q.latch || q.onchange then latchAndOnchange q dm dm cur y else setVariableIf q dm cur y) =
      .ok (latchSpec q dm cur y).1 (latchSpec q dm cur y).2 := by
  simp only [latchAndOnchange, setVariableIf_eq q dm cur y hc hq, latchSpec]
  cases h : cur == y <;> cases h0 : cur == .none <;> cases q.latch <;> cases q.onchange <;>
    simp [bne, h, h0]

/-- the `onmatch` gate is decided before any value is looked at: on a line whose rest does not match nothing is written, and the
    vote is the negative one unless `nocontrib` makes it neutral -/
theorem assign_gate (q : Quals) (ho : q.onmatch = true) (cur y : Val) (lm dm : Bool) (hl : lm ≠ dm) :
    assign q cur y lm dm = .ok none (if q.nocontrib then dm else !dm) := by
  have hf : (lm == dm) = false := by simpa using hl
  simp only [assign, ho, hf, Bool.not_true, Bool.false_or, Bool.false_eq_true, if_false]
  cases q.asbool <;> cases q.nocontrib <;> cases dm <;> rfl

theorem blocked_or {c : Prop} [Decidable c] {v : Bool} {t : Option Val × Bool} {y : Val}
    (h : t.1 = none ∨ t.1 = some y) :
    (if c then (none, v) else t).1 = none ∨ (if c then (none, v) else t).1 = some y := by
  split
  · exact .inl rfl
  · exact h

/-- each of the six guards of the decision list writes nothing; what is left writes the new value -/
theorem spec_write (q : Quals) (cur y : Val) (rest dm : Bool) :
    (Spec.Assign.assign q cur y rest dm).1 = none ∨
      (Spec.Assign.assign q cur y rest dm).1 = some y :=
  blocked_or (blocked_or (blocked_or (blocked_or (blocked_or (blocked_or (.inr rfl))))))

end Proofs.Assign
