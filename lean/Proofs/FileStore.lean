/-
  The named-files store: an association list of directories, taken by `abs` to the abstract versioned store of `Spec.Files`.
  Digests are compared only when a file is added, and a stored file is never shadowed (`fileAt_addDir`); from that the invariant
  `WF` (files are content-addressed, manifest entries have their file) is preserved by every operation.
-/
import Model.FileStore
import Spec.Stores

namespace Proofs.Files
open Model.Files

variable {κ δ : Type}

theorem lookup_cons (k : String) (d : NameDir κ δ) (s : Store κ δ) (m : String) :
    lookup ((k, d) :: s) m = if k = m then some d else lookup s m := by
  by_cases h : k = m <;> simp [lookup, h]

theorem remove_cons (k : String) (d : NameDir κ δ) (s : Store κ δ) (n : String) :
    remove ((k, d) :: s) n = if k = n then remove s n else (k, d) :: remove s n := by
  by_cases h : k = n <;> simp [remove, h]

theorem lookup_setDir (s : Store κ δ) (n m : String) (d : NameDir κ δ) :
    lookup (setDir s n d) m = if n = m then some d else lookup s m := by
  induction s with
  | nil => rw [setDir, lookup_cons]
  | cons p r ih =>
    obtain ⟨k, d'⟩ := p
    simp only [setDir, beq_iff_eq, apply_ite (lookup · m), lookup_cons, ih]
    -- `if`s on `k = n`, `k = m`, `n = m` alone
    grind

theorem lookup_remove (s : Store κ δ) (n m : String) :
    lookup (remove s n) m = if n = m then none else lookup s m := by
  induction s with
  | nil => simp [remove, lookup]
  | cons p r ih =>
    obtain ⟨k, d'⟩ := p
    simp only [remove_cons, apply_ite (lookup · m), lookup_cons, ih]
    -- as in `lookup_setDir`, but for the branch `k = n`, which here tests `n = m`
    grind

def absDir (d : NameDir κ δ) : Spec.Files.Versions δ := d.manifest.map (fun e => (e.fingerprint, e.fileHome))

def abs (s : Store κ δ) : Spec.Files.Spec δ := s.map (fun p => (p.1, absDir p.2))

theorem versions_abs (s : Store κ δ) (n : String) :
    Spec.Files.versions (abs s) n = (lookup s n).map absDir := by
  simp only [Spec.Files.versions, abs, lookup, List.find?_map, Option.map_map]
  rfl

theorem abs_setDir (s : Store κ δ) (n : String) (d : NameDir κ δ) :
    abs (setDir s n d) = Spec.Files.setV (abs s) n (absDir d) := by
  induction s with
  | nil => rfl
  | cons p r ih =>
    simp only [setDir, abs, Spec.Files.setV, List.map_cons, apply_ite (List.map _)] at ih ⊢
    rw [ih]

theorem abs_remove (s : Store κ δ) (n : String) : abs (remove s n) = Spec.Files.remove (abs s) n := by
  simp only [abs, remove, Spec.Files.remove, List.filter_map]
  rfl

theorem get_abs (s : Store κ δ) (n : String) :
    Model.Files.get s n = (Spec.Files.current (abs s) n).map (fun v => (v.2, v.1)) := by
  unfold Model.Files.get Spec.Files.current
  rw [versions_abs]
  cases lookup s n with
  | none => rfl
  | some d =>
    simp only [Option.map_some, Option.bind_some, absDir, List.getLast?_map]
    cases d.manifest.getLast? <;> rfl

variable [DecidableEq δ]

/-- well-formedness of one directory: every stored file is content-addressed and every manifest
    entry has its file -/
structure DirWF (H : κ → δ) (d : NameDir κ δ) : Prop where
  addressed : ∀ k c, fileAt d k = some c → H c = k.2
  present : ∀ e ∈ d.manifest, ∃ c, fileAt d (e.fileHome, e.fingerprint) = some c

def WF (H : κ → δ) (s : Store κ δ) : Prop := ∀ n d, lookup s n = some d → DirWF H d

/-- the directory of `name` after an `add` -/
def addDir (H : κ → δ) (d : NameDir κ δ) (src : String) (content : κ) : NameDir κ δ :=
  let h := H content
  { manifest :=
      if (match d.manifest.getLast? with
          | some e => e.fingerprint == h && e.fileHome == src
          | none => false) then d.manifest
      else d.manifest ++ [{ fingerprint := h, fileHome := src }],
    files := match fileAt d (src, h) with
      | some _ => d.files
      | none => d.files ++ [((src, h), content)] }

theorem add_eq (H : κ → δ) (s : Store κ δ) (n src : String) (c : κ) :
    add H s n src c = setDir s n (addDir H ((lookup s n).getD {}) src c) := rfl

/-- An `add` never shadows a stored file (immutability, one step): the new content is found only
    under a key that had none. -/
theorem fileAt_addDir (H : κ → δ) (d : NameDir κ δ) (src : String) (c : κ) (k : String × δ) :
    fileAt (addDir H d src c) k = (fileAt d k).or (if (src, H c) = k then some c else none) := by
  cases hf : fileAt d (src, H c) with
  | some y =>
    have : (addDir H d src c).files = d.files := by simp only [addDir, hf]
    rw [fileAt, this, ← fileAt]
    by_cases hk : (src, H c) = k
    · rw [← hk, hf]; rfl
    · rw [if_neg hk, Option.or_none]
  | none =>
    have : (addDir H d src c).files = d.files ++ [((src, H c), c)] := by simp only [addDir, hf]
    rw [fileAt, this, List.find?_append, Option.map_or, ← fileAt]
    simp [Prod.ext_iff]

theorem addDir_keeps (H : κ → δ) (d : NameDir κ δ) (src : String) (c : κ) (k : String × δ) (x : κ)
    (hx : fileAt d k = some x) : fileAt (addDir H d src c) k = some x := by
  rw [fileAt_addDir, hx, Option.some_or]

theorem addDir_manifest (H : κ → δ) (d : NameDir κ δ) (src : String) (c : κ) :
    (addDir H d src c).manifest =
      if d.manifest.getLast? = some ⟨H c, src⟩ then d.manifest else d.manifest ++ [⟨H c, src⟩] := by
  unfold addDir
  cases d.manifest.getLast? with
  | none => simp
  | some e =>
    obtain ⟨f, g⟩ := e
    by_cases h1 : f = H c <;> by_cases h2 : g = src <;> simp [h1, h2]

theorem getLast?_addDir (H : κ → δ) (d : NameDir κ δ) (src : String) (c : κ) :
    (addDir H d src c).manifest.getLast? = some ⟨H c, src⟩ := by
  rw [addDir_manifest]
  split
  · assumption
  · exact List.getLast?_concat

theorem addDir_WF (H : κ → δ) (d : NameDir κ δ) (hd : DirWF H d) (src : String) (c : κ) :
    DirWF H (addDir H d src c) where
  addressed k x hx := by
    rw [fileAt_addDir, Option.or_eq_some_iff] at hx
    rcases hx with hx | ⟨-, hx⟩
    · exact hd.addressed k x hx
    · split at hx
      · cases hx; subst k; rfl
      · cases hx
  present e he := by
    have : e ∈ d.manifest ∨ e = ⟨H c, src⟩ := by
      rw [addDir_manifest] at he
      split at he
      · exact .inl he
      · simpa using he
    rcases this with h | rfl
    · obtain ⟨x, hx⟩ := hd.present e h
      exact ⟨x, addDir_keeps H d src c _ x hx⟩
    · exact ⟨_, by rw [fileAt_addDir, if_pos rfl, Option.or_some]⟩

theorem emptyDir_WF (H : κ → δ) : DirWF H ({} : NameDir κ δ) :=
  ⟨fun k c h => by simp [fileAt] at h, fun e he => by simp at he⟩

theorem WF.getD {H : κ → δ} {s : Store κ δ} (hs : WF H s) (n : String) :
    DirWF H ((lookup s n).getD {}) := by
  cases hl : lookup s n with
  | none => exact emptyDir_WF H
  | some d => exact hs n d hl

theorem WF.step {H : κ → δ} {s : Store κ δ} (hs : WF H s) (op : Op κ) : WF H (step H s op) := by
  intro m d hm
  cases op with
  | add n src c =>
    rw [Model.Files.step, add_eq, lookup_setDir] at hm
    split at hm
    · cases hm; exact addDir_WF H _ (hs.getD n) src c
    · exact hs m d hm
  | remove n =>
    rw [Model.Files.step, lookup_remove] at hm
    split at hm
    · cases hm
    · exact hs m d hm
  | newInstance => exact hs m d hm
  | mutateSource _ _ => exact hs m d hm

theorem run_WF (H : κ → δ) (ops : List (Op κ)) : WF H (ops.foldl (step H) []) :=
  List.foldlRecOn ops (step H) (fun n d h => by simp [lookup] at h) fun _ hs op _ => hs.step op

theorem WF.get_addressed {H : κ → δ} {s : Store κ δ} (hs : WF H s) {n src : String} {h : δ}
    (hg : Model.Files.get s n = some (src, h)) :
    ∃ c, bytes s n = some c ∧ H c = h ∧ fingerprint s n = some h := by
  rw [fingerprint, bytes, hg]
  cases hl : lookup s n with
  | none => simp [Model.Files.get, hl] at hg
  | some d =>
    cases hm : d.manifest.getLast? with
    | none => simp [Model.Files.get, hl, hm] at hg
    | some e =>
      simp only [Model.Files.get, hl, hm, Option.map_some, Option.some.injEq] at hg
      cases hg
      obtain ⟨c, hc⟩ := (hs n d hl).present e (List.mem_of_getLast? hm)
      exact ⟨c, hc, (hs n d hl).addressed _ _ hc, rfl⟩

theorem get_add (H : κ → δ) (s : Store κ δ) (n src : String) (c : κ) :
    Model.Files.get (add H s n src c) n = some (src, H c) := by
  rw [Model.Files.get, add_eq, lookup_setDir, if_pos rfl]
  simp only [getLast?_addDir, Option.map_some]

theorem absDir_addDir (H : κ → δ) (d : NameDir κ δ) (src : String) (c : κ) :
    absDir (addDir H d src c) =
      (if (absDir d).getLast? == some (H c, src) then absDir d else absDir d ++ [(H c, src)]) := by
  simp only [absDir, addDir_manifest, apply_ite (List.map _), List.getLast?_map, List.map_append,
    List.map_cons, List.map_nil]
  cases d.manifest.getLast? with
  | none => rfl
  | some e => obtain ⟨f, g⟩ := e; simp

end Proofs.Files
