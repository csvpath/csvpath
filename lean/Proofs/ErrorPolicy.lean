/-
  The validation-mode reader.  `str.find` looks for a token anywhere in
  the setting; a token without comma or blank cannot lie across a separator of a comma-separated setting, so it
  is found in the setting exactly when it is found in one of the words (`readFlag_commaSep`).
-/
import Model.ErrorPolicy

namespace Proofs.Err
open Model.Err

theorem isInfix_iff (t s : List Char) : isInfix t s = true ↔ t <:+: s := by
  induction s with
  | nil => simp [isInfix]
  | cons c cs ih => simp [isInfix, List.infix_cons_iff, ih]

theorem isInfix_sep {t : List Char} {c : Char} (hc : c ∉ t) (a b : List Char) :
    isInfix t (a ++ c :: b) = (isInfix t a || isInfix t b) := by
  have hpre : ∀ {l}, l <:+ t → l <+: c :: b → l = [] := by
    intro l hs hp
    rcases List.prefix_cons_iff.mp hp with rfl | ⟨l', rfl, -⟩
    · rfl
    · exact absurd (hs.mem (List.mem_cons_self ..)) hc
  rw [Bool.eq_iff_iff, Bool.or_eq_true, isInfix_iff, isInfix_iff, isInfix_iff]
  constructor
  · rw [List.infix_append_iff]
    rintro (h | h | ⟨l₁, l₂, rfl, h₁, h₂⟩)
    · exact .inl h
    · rcases List.infix_cons_iff.mp h with h | h
      · exact .inl (hpre (List.suffix_refl t) h ▸ List.nil_infix ..)
      · exact .inr h
    · rw [hpre (List.suffix_append l₁ l₂) h₂, List.append_nil]
      exact .inl h₁.isInfix
  · rintro (h | h)
    · exact List.infix_append_of_infix_left h
    · exact List.infix_append_of_infix_right (List.infix_cons h)

theorem isInfix_commaSep {t : List Char} (h1 : ',' ∉ t) (h2 : ' ' ∉ t) (ht : t ≠ [])
    (ws : List (List Char)) : isInfix t ([',', ' '].intercalate ws) = ws.any (isInfix t) := by
  have h0 : isInfix t [] = false := by simpa [isInfix] using ht
  induction ws with
  | nil => exact h0
  | cons w ws ih =>
    cases ws with
    | nil => simp
    | cons w' ws' =>
      -- after the cut at the comma the blank stands first: `[] ++ ' ' :: _` makes it a cut for `isInfix_sep`
      rw [List.intercalate_cons_cons, List.append_assoc, List.cons_append, isInfix_sep h1,
        List.cons_append, List.nil_append, ← List.nil_append (' ' :: _), isInfix_sep h2, ih, h0]
      rfl

/-- `readFlag` on the words of a setting instead of its text -/
def readWords (ws : List String) (tok : String) : Option Bool :=
  if ws.any (fun w => isInfix ("no-" ++ tok).toList w.toList) then some false
  else if ws.any (fun w => isInfix tok.toList w.toList) then some true
  else none

theorem readFlag_commaSep (ws : List String) {tok : String}
    (h1 : ',' ∉ tok.toList) (h2 : ' ' ∉ tok.toList) (h3 : tok.toList ≠ []) :
    readFlag (", ".intercalate ws).toList tok = readWords ws tok := by
  rw [readFlag, String.toList_intercalate, show ", ".toList = [',', ' '] from rfl,
    isInfix_commaSep h1 h2 h3, isInfix_commaSep, List.any_map, List.any_map]
  · rfl
  all_goals simp [String.toList_append, h1, h2]

/-- the emptiness test of `_update_settings` changes nothing: no token is found in "" -/
theorem readOverride_some (s : String) :
    readOverride (some s) =
      { raise := readFlag s.toList "raise", print := readFlag s.toList "print",
        stop := readFlag s.toList "stop", fail := readFlag s.toList "fail",
        matchv := readFlag s.toList "match" } := by
  rw [readOverride]
  split
  · rename_i h
    rw [String.isEmpty_iff.mp h]; decide
  · rfl

end Proofs.Err
