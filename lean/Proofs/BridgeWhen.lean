import Proofs.BridgeMatches
import Model.WhenTop

/-! For the bridge of the when/do operator (`Props.WhenTie`): `Model.WhenTop`'s world made of the Python world, and what is assumed
    of the two sides (arbitrary functions of the environment that keep `Contract`). -/
namespace Proofs.BridgeWhen
open Model.WhenTop Proofs.BridgeMatches

/-- `skip`: the argument `_do_when` hands on to both sides -/
def world (ext : Py.Ext) (skip : Py.V) : World Py.Env where
  evalL e := (Py.isb (ext "left_matches" [skip] e).1 (.bool true), (ext "left_matches" [skip] e).2)
  evalR e := (ext "right_matches" [skip] e).2
  sentinel e := Py.truthy (e "self.sentinel")
  setSentinel e := Py.upd e "self.sentinel" (.bool true)
  defaultMatch e := Py.truthy (e "self.default_match()")
  setDoWhen b e := Py.upd e "self.DO_WHEN" (.bool b)
  setFrozen b e := Py.upd e "self.matcher.csvpath.is_frozen" (.bool b)

/-- what `_do_when` reads about its left-hand side and its surroundings -/
structure Facts (e : Py.Env) (dm nc a b : Bool) : Prop where
  andMode : e "self.matcher._AND" = .bool dm
  nocontrib : e "self._left_nocontrib(self.left)" = .bool nc
  isFn : e "isinstance(self.left, Function)" = .bool a
  overrides : e "self.left.override_frozen()" = .bool b

/-- what the bridge assumes of the world: calls return values and leave values in the environment; the left-hand side does not
    change the facts about itself -/
structure Contract (ext : Py.Ext) : Prop where
  value : ∀ name a e, Py.isExc (ext name a e).1 = false
  clean : ∀ name a e, Clean e → Clean (ext name a e).2
  facts : ∀ a e dm nc x y, Facts e dm nc x y → Facts (ext "left_matches" a e).2 dm nc x y

theorem Facts.upd {e : Py.Env} {dm nc a b : Bool} (h : Facts e dm nc a b) (k : String) (v : Py.V)
    (h1 : ¬ "self.matcher._AND" = k) (h2 : ¬ "self._left_nocontrib(self.left)" = k)
    (h3 : ¬ "isinstance(self.left, Function)" = k) (h4 : ¬ "self.left.override_frozen()" = k) : Facts (Py.upd e k v) dm nc a b :=
  ⟨(Py.upd_other h1).trans h.andMode, (Py.upd_other h2).trans h.nocontrib,
   (Py.upd_other h3).trans h.isFn, (Py.upd_other h4).trans h.overrides⟩

end Proofs.BridgeWhen
