import Model.Metadata
/-! `extract_csvpath_and_comment` on a text `~comment~ layout $…]`: what the outer scanner does with a run of
characters it does not react to, with the comment, and inside the csvpath. -/
namespace Proofs.Meta
open Model.Meta

/-- free of the four characters the outer scanner reacts to -/
def plain (x : MChar) : Bool := x.c != '~' && x.c != '[' && x.c != ']' && x.c != '$'

theorem go_plain (w : MStr) (hw : ∀ x ∈ w, plain x = true) (st : XSt) (rest p k : MStr) :
    extractGo st (w ++ rest) p k = match st with
      | .outside => extractGo .outside rest p k
      | .comment => extractGo .comment rest p (w.reverse ++ k)
      | .inside => extractGo .inside rest (w.reverse ++ p) k := by
  induction w generalizing p k with
  | nil => cases st <;> rfl
  | cons x xs ih =>
    obtain ⟨hx, hw⟩ := List.forall_mem_cons.mp hw
    simp only [plain, Bool.and_eq_true, bne_iff_ne, ne_eq] at hx
    cases st <;> simp [extractGo, hx, ih hw]

theorem go_comment (t1 t2 : MChar) (k w : MStr) (ht1 : t1.c = '~') (ht2 : t2.c = '~')
    (hk : ∀ x ∈ k, plain x = true) (hw : ∀ x ∈ w, plain x = true) (rest p acc : MStr) :
    extractGo .outside (t1 :: (k ++ t2 :: (w ++ rest))) p acc = extractGo .outside rest p (k.reverse ++ acc) := by
  rw [extractGo]
  simp only [ht1, beq_self_eq_true, if_true, go_plain k hk]
  rw [extractGo]
  simp only [ht2, beq_self_eq_true, if_true, go_plain w hw]

theorem go_inside (xs : MStr) (rb : MChar) (h : rb.c = ']') (p k : MStr) :
    extractGo .inside (xs ++ [rb]) p k = (p.reverse ++ xs ++ [rb], k.reverse) := by
  induction xs generalizing p with
  | nil => simp [extractGo, h]
  | cons x xs ih =>
    -- a `]` follows, so whatever `x` is the scanner stays inside
    have hh : hasChar (xs ++ [rb]) ']' = true := by simp [hasChar, h]
    have : extractGo .inside (x :: (xs ++ [rb])) p k = extractGo .inside (xs ++ [rb]) (x :: p) k := by
      simp [extractGo, hh]
    rw [List.cons_append, this, ih]; simp

theorem go_path (dollar rb : MChar) (body k : MStr) (hd : dollar.c = '$') (hr : rb.c = ']') :
    extractGo .outside (dollar :: (body ++ [rb])) [] k = (dollar :: (body ++ [rb]), k.reverse) := by
  simp [extractGo, hd, go_inside body rb hr]

end Proofs.Meta
