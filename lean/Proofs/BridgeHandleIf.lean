import Generated.CoreHandleIf
import Proofs.PyNorm
import Model.ErrorPolicy

/-! For the bridge of C05 (`Props.C05Tie`): the handler object made of a policy and an override (`envH`), the recorded effects read
    as changes of the error state (`applyEff`), and the translated `do_i_*` and `_handle_if` against `Model.Err`. -/
namespace Proofs.BridgeHandleIf
open Model.Err

def optBool : Option Bool → Py.V
  | some b => .bool b
  | Option.none => .none

/-- the configured policy as the list of words the code tests membership in -/
def words (p : Policy) : List String :=
  (if p.raise then ["raise"] else []) ++ (if p.collect then ["collect"] else []) ++ (if p.stop then ["stop"] else []) ++
  (if p.fail then ["fail"] else []) ++ (if p.print then ["print"] else []) ++ (if p.quiet then ["quiet"] else [])

/-- an `ErrorHandler` made for a CsvPath: the handler and its comms manager see the csvpath, whose validation-mode
    settings are the override -/
def envH (p : Policy) (o : Override) : Py.Env := fun k =>
  if k = "self._csvpath" then .bool true
  else if k = "self._ecm._csvpath" then .bool true
  else if k = "self._ecm._csvpath.raise_validation_errors" then optBool o.raise
  else if k = "self._ecm._csvpath.print_validation_errors" then optBool o.print
  else if k = "self._ecm._csvpath.stop_on_validation_errors" then optBool o.stop
  else if k = "self._ecm._csvpath.fail_on_validation_errors" then optBool o.fail
  else if k = "self._ecm._policy" then .strs (words p)
  else .exc "AttributeError"

theorem any_word (w x : String) (b : Bool) : (if b = true then [x] else []).any (w == ·) = (b && w == x) := by
  cases b <;> simp

/-- `w in policy`, by the policy's flags -/
theorem any_words (w : String) (p : Policy) : (words p).any (w == ·) =
    (p.raise && w == "raise" || p.collect && w == "collect" || p.stop && w == "stop" || p.fail && w == "fail" ||
      p.print && w == "print" || p.quiet && w == "quiet") := by
  simp only [words, List.any_append, any_word]

/-- a step of the symbolic run: `py_eval`, reads of `envH`, membership of a literal word in the policy, and what the case at hand
    adds -/
macro "hi_norm" "[" ts:Lean.Parser.Tactic.simpLemma,* "]" loc:(Lean.Parser.Tactic.location)? : tactic => `(tactic|
  simp only [py_eval, envH, String.reduceEq, ↓reduceIte, any_words, String.reduceBEq, $ts,*] $[$loc]?)

theorem do_i_raise_bridge (p : Policy) (o : Override) :
    Py.val (Generated.HandleIf.ErrorCommsManager.do_i_raise__via_self__ecm (envH p o) []) = .bool (doRaise p o) := by
  hi_norm [py_core, doRaise]
  cases o.raise <;> rfl

theorem do_i_print_bridge (p : Policy) (o : Override) :
    Py.val (Generated.HandleIf.ErrorCommsManager.do_i_print__via_self__ecm (envH p o) []) = .bool (doPrint p o) := by
  hi_norm [py_core, doPrint]
  cases o.print <;> rfl

theorem do_i_stop_bridge (p : Policy) (o : Override) :
    Py.val (Generated.HandleIf.ErrorCommsManager.do_i_stop__via_self__ecm (envH p o) []) = .bool (doStop p o) := by
  hi_norm [py_core, doStop]
  cases o.stop <;> rfl

theorem do_i_fail_bridge (p : Policy) (o : Override) :
    Py.val (Generated.HandleIf.ErrorCommsManager.do_i_fail__via_self__ecm (envH p o) []) = .bool (doFail p o) := by
  hi_norm [py_core, doFail]
  cases o.fail <;> rfl

/-- the effects of handling one error, as `_handle_if` records them -/
def effsOf (p : Policy) (o : Override) (e : Py.V) : List Py.Eff :=
  (if doStop p o then [{ name := "set self._csvpath.stopped", args := [.bool true] }] else []) ++
  (if p.collect then [{ name := "collect_error", args := [e] }] else []) ++
  (if doFail p o then [{ name := "set self._csvpath.is_valid", args := [.bool false] }] else []) ++
  (if doPrint p o then [{ name := "print", args := [] }] else [])

/-- what a recorded effect does to the csvpath's error state -/
def applyEff (e : Nat) (s : ESt) (f : Py.Eff) : ESt :=
  if f.name = "set self._csvpath.stopped" then { s with stopped := true }
  else if f.name = "collect_error" then { s with collected := s.collected ++ [e] }
  else if f.name = "set self._csvpath.is_valid" then { s with valid := false }
  else if f.name = "print" then { s with printed := s.printed ++ [e] }
  else s

/-- the model lists the effects, the code appends them one at a time -/
theorem append_opt (l : List Py.Eff) (b : Bool) (x : Py.Eff) :
    l ++ (if b = true then [x] else []) = if b = true then l ++ [x] else l := by
  cases b <;> simp

/-- handling one error through the translated `_handle_if` performs exactly the effects of
    `effsOf`, in the code's order (stop, collect, fail, print), and raises `MatchException` iff `doRaise`. -/
theorem handle_if_bridge (p : Policy) (o : Override) (e : Nat) (effs : List Py.Eff) :
    Generated.HandleIf.ErrorHandler._handle_if (envH p o) (.strs (words p)) (.int e) effs =
      (if doRaise p o then .raised "MatchException" (effs ++ effsOf p o (.int e))
       else .ok .none (effs ++ effsOf p o (.int e))) := by
  -- `↓`: where a `do_i_*` is called its bridge is used, before `py_core` would unfold it
  hi_norm [py_core, ↓do_i_raise_bridge, ↓do_i_print_bridge, ↓do_i_stop_bridge, ↓do_i_fail_bridge, Py.and_bools, beq_true, Py.eff,
    Py.firstExc, ite_self, effsOf, ← List.append_assoc]
  simp only [append_opt]
  generalize doRaise p o = b1
  generalize doPrint p o = b2
  generalize doStop p o = b3
  generalize doFail p o = b4
  cases b1 <;> cases b2 <;> cases b3 <;> cases b4 <;> cases p.collect <;> rfl

/-- … and those effects, applied to the error state, are the model's `handleOne` -/
theorem effs_are_handleOne (p : Policy) (o : Override) (e : Nat) (s : ESt) :
    (effsOf p o (.int e)).foldl (applyEff e) s = (handleOne p o s e).1 := by
  unfold effsOf handleOne
  cases doStop p o <;> cases p.collect <;> cases doFail p o <;> cases doPrint p o <;> simp [applyEff]

end Proofs.BridgeHandleIf
