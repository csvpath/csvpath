import Model.MatchTop
import Model.Matcher
import Proofs.Matcher

/-! Facts about the abstract top level of a match (`Model.MatchTop`), and the interpreter model's `matchExprs` as an instance. -/
namespace Proofs.MatchTop
open Model.MatchTop

variable {σ : Type}

/-- when no component is cut by stop or skip, every component is evaluated exactly once, in order, each in the state its
    predecessor left: the verdict is the AND (in OR mode the OR) of the votes, and what the match leaves is the final state with
    the errors cleared -/
theorem go_clean (w : World σ) (andMode : Bool) (r i : Nat) (s : σ) (failed : Bool)
    (hq : ∀ t ∈ states w r i s, w.stopped t = false ∧ w.skip t = false) :
    go w andMode r i s failed =
      ((if andMode then (!failed && (votes w r i s).all id) else (!failed || (votes w r i s).any id)),
       w.finish (w.clearErrors (afterAll w r i s))) := by
  induction r generalizing i s failed with
  | zero =>
    have h := hq s (by simp [states])
    cases andMode <;> simp [go, votes, afterAll, h.2]
  | succ r ih =>
    have h := hq s (by simp [states])
    rw [go, h.1, h.2]
    simp only [Bool.false_eq_true, if_false]
    rw [ih (i + 1) _ _ fun t ht => hq t (by simp [states, ht])]
    simp only [votes, afterAll]
    generalize (w.evalE i s).1 = b
    cases andMode <;> cases failed <;> cases b <;> simp [fold]

/-- a stop seen before component `i` ends the match there: the answer is False and no later component is evaluated -/
theorem go_stop_cut (w : World σ) (andMode : Bool) (r i : Nat) (s : σ) (failed : Bool) (h : w.stopped s = true) :
    go w andMode (r + 1) i s failed = (false, w.clearErrors s) := by
  simp [go, h]

/-- a skip seen before component `i` ends the match there, and the flag does not leak into the next line -/
theorem go_skip_cut (w : World σ) (andMode : Bool) (r i : Nat) (s : σ) (failed : Bool) (h0 : w.stopped s = false)
    (h : w.skip s = true) : go w andMode (r + 1) i s failed = (false, w.clearErrors (w.clearSkip s)) := by
  simp [go, h0, h]

/-- a skip fired by the last component -/
theorem go_skip_last (w : World σ) (andMode : Bool) (i : Nat) (s : σ) (failed : Bool) (h : w.skip s = true) :
    go w andMode 0 i s failed = (false, w.clearErrors (w.clearSkip s)) := by
  simp [go, h]

open Model.Interp

/-- the interpreter model's components as a world: the state is the view and the out-of-model mark -/
def interpWorld (env : Env) (prog : List Node) : World (View × Option String) where
  n := prog.length
  evalE i s :=
    match prog[i]? with
    | some e =>
      let r := evalExpr env s.1 e
      (!(r.1 == some false), (applyAll s.1 r.2.1, s.2.or r.2.2))
    | none => (true, s)
  stopped s := s.1.stopped
  skip s := s.1.skip
  clearSkip s := ({ s.1 with skip := false }, s.2)
  clearErrors s := s
  doLasts s := s
  finish s := s

theorem matchExprs_is_go (env : Env) (prog : List Node) (i : Nat) (v : View) (failed : Bool) (bad : Option String) :
    matchExprs env (prog.drop i) v failed bad =
      let r := go (interpWorld env prog) env.dm (prog.length - i) i (v, bad) failed
      (r.1, r.2.1, r.2.2) := by
  generalize hr : prog.length - i = r
  induction r generalizing i v failed bad with
  | zero =>
    rw [List.drop_eq_nil_of_le (by omega)]
    cases hk : v.skip <;> simp [matchExprs, go, interpWorld, hk]
  | succ r ih =>
    have hlt : i < prog.length := by omega
    rw [List.drop_eq_getElem_cons hlt]
    cases h1 : v.stopped
    · cases h2 : v.skip
      · -- the component is evaluated and both sides go on with the rest (`ih`)
        rw [Proofs.Matcher.matchExprs_step _ _ _ _ _ _ h1 h2, ih (i + 1) _ _ _ (by omega)]
        simp [go, interpWorld, h1, h2, hlt, fold]
      · rw [Proofs.Matcher.matchExprs_skip _ _ _ _ _ _ h1 h2]
        simp [go, interpWorld, h1, h2]
    · rw [Proofs.Matcher.matchExprs_stopped _ _ _ _ _ _ h1]
      simp [go, interpWorld, h1]

end Proofs.MatchTop
