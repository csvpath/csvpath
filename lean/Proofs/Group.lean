import Model.Group
import Proofs.RunLoop

/-! Breadth-first = alone (`byLineFrom_members`): one record of the inner loop is every running member's own step
    (`stepMembers_spec`), the members' solo folds (`soloAll`) advance by that same step (`soloAll_cons`), and the early `break` loses
    nothing, for it fires when all members have stopped and a stopped member's fold is over (`soloAll_allStopped`).
    `runFrom_solo`: the solo fold is the standalone run. -/
namespace Proofs.Group
open Model.Scan Model.Run Model.Group Proofs.Run

variable {σ : Type}

/-- a member alone, as `CsvPath.next()` sees it: the standalone run is the solo fold, then
    `finalize`.  `runFrom` tests the stop flag after a record, `soloFrom` before the next one, so the run must start unstopped. -/
theorem runFrom_solo (mem : Member σ) (ku : Bool) (endIdx : Option Nat) (i : Nat) (recs : List Rec) (st : LoopSt σ)
    (acc : Acc) (ls : List Rec) (hs : st.fl.stopped = false) :
    ls ++ (runFrom mem.m mem.scan mem.cwnm ku endIdx none i recs st acc).1 =
      (soloFrom mem endIdx i recs { st := st, lines := ls }).lines ∧
    (runFrom mem.m mem.scan mem.cwnm ku endIdx none i recs st acc).2.1 =
      finalize (soloFrom mem endIdx i recs { st := st, lines := ls }).st := by
  induction recs generalizing i st acc ls with
  | nil => simp [runFrom, soloFrom]
  | cons r rs ih =>
    rw [runFrom_none_cons]
    simp only [soloFrom, hs, memberStep, Bool.false_eq_true, if_false]
    generalize considerLine mem.m mem.scan mem.cwnm endIdx i r (trackLine i r st) = c
    obtain ⟨b, st1⟩ := c
    cases hst : st1.fl.stopped
    · have := ih (i + 1) st1 (accStep ku i r b acc) (if b then ls ++ [r] else ls) hst
      cases b <;> simpa using this
    · -- stopped by this record: the run ends; `soloFrom` sees the flag only if a record follows, hence `cases rs`
      cases b <;> cases rs <;> simp [soloFrom, hst]

theorem soloFrom_stopped (mem : Member σ) (endIdx : Option Nat) (i : Nat) (recs : List Rec) (ms : MSt σ)
    (h : ms.st.fl.stopped = true) : soloFrom mem endIdx i recs ms = ms := by
  cases recs <;> simp [soloFrom, h]

/-- the number of stopped members: what the counter `cnt` of `stepMembers` and `byLineFrom` holds (`sum(stopped_count)` in
    `next_by_line`; `stepMembers_spec`, third clause), so that the `break` fires exactly when every member has stopped -/
def stoppedCount (states : List (MSt σ)) : Nat := (states.filter (·.st.fl.stopped)).length

theorem stoppedCount_cons (ms : MSt σ) (states : List (MSt σ)) :
    stoppedCount (ms :: states) = stoppedCount states + if ms.st.fl.stopped then 1 else 0 := by
  cases h : ms.st.fl.stopped <;> simp [stoppedCount, h]

theorem stoppedCount_le (states : List (MSt σ)) : stoppedCount states ≤ states.length := List.length_filter_le _ _

theorem stoppedCount_eq_length {states : List (MSt σ)} :
    stoppedCount states = states.length ↔ ∀ ms ∈ states, ms.st.fl.stopped = true :=
  List.length_filter_eq_length_iff

/-- one record of the inner loop: every member still running makes exactly its own solo step, what the caller is told is the
    union (with `if_all_agree` the intersection) of their decisions, and the stopped counter grows by the members newly stopped -/
theorem stepMembers_spec (endIdx : Option Nat) (ifAll : Bool) (i : Nat) (r : Rec) :
    ∀ (pairs : List (Member σ × MSt σ)) (keep : Bool) (cnt : Nat),
      (stepMembers endIdx ifAll i r pairs keep cnt).1 =
        pairs.map (fun p => if p.2.st.fl.stopped then p.2 else (memberStep p.1 endIdx i r p.2).2) ∧
      (stepMembers endIdx ifAll i r pairs keep cnt).2.1 =
        (let ds := (pairs.filter (fun p => !p.2.st.fl.stopped)).map (fun p => (memberStep p.1 endIdx i r p.2).1)
         if ifAll then keep && ds.all id else keep || ds.any id) ∧
      (stepMembers endIdx ifAll i r pairs keep cnt).2.2 + stoppedCount (pairs.map (·.2)) =
        cnt + stoppedCount (stepMembers endIdx ifAll i r pairs keep cnt).1 := by
  intro pairs
  induction pairs with
  | nil => intro keep cnt; cases ifAll <;> simp [stepMembers]
  | cons p rest ih =>
    intro keep cnt
    obtain ⟨mem, ms⟩ := p
    cases hs : ms.st.fl.stopped
    · simp only [stepMembers, hs, Bool.false_eq_true, if_false]
      generalize hres : memberStep mem endIdx i r ms = res
      obtain ⟨h1, h2, h3⟩ := ih (if ifAll then keep && res.1 else keep || res.1)
        (if res.2.st.fl.stopped then cnt + 1 else cnt)
      refine ⟨by simp [h1, hs, hres], by rw [h2]; cases ifAll <;> simp [hs, hres, Bool.and_assoc, Bool.or_assoc], ?_⟩
      simp only [List.map_cons, stoppedCount_cons, hs] at h3 ⊢
      cases hr : res.2.st.fl.stopped <;> simp only [hr, Bool.false_eq_true, if_false, if_true] at h3 ⊢ <;> omega
    · obtain ⟨h1, h2, h3⟩ := ih keep cnt
      simp only [stepMembers, hs, if_true]
      refine ⟨by simp [h1, hs], by simp [h2, hs], ?_⟩
      simp only [List.map_cons, stoppedCount_cons, hs, if_true] at h3 ⊢
      omega

def soloAll (members : List (Member σ)) (endIdx : Option Nat) (i : Nat) (recs : List Rec) (states : List (MSt σ)) :
    List (MSt σ) :=
  (members.zip states).map (fun p => soloFrom p.1 endIdx i recs p.2)

theorem zip_map_zip {α β γ : Type} (f : α × β → γ) : ∀ (l₁ : List α) (l₂ : List β),
    l₁.zip ((l₁.zip l₂).map f) = (l₁.zip l₂).map (fun p => (p.1, f p))
  | [], _ => rfl
  | _ :: _, [] => rfl
  | a :: l₁, b :: l₂ => by simp [zip_map_zip f l₁ l₂]

/-- the solo folds advance by the members' own step -/
theorem soloAll_cons (members : List (Member σ)) (endIdx : Option Nat) (i : Nat) (r : Rec) (rs : List Rec)
    (states : List (MSt σ)) :
    soloAll members endIdx i (r :: rs) states = soloAll members endIdx (i + 1) rs ((members.zip states).map
      (fun p => if p.2.st.fl.stopped then p.2 else (memberStep p.1 endIdx i r p.2).2)) := by
  unfold soloAll
  rw [zip_map_zip, List.map_map]
  apply List.map_congr_left
  intro p _
  cases hp : p.2.st.fl.stopped <;> simp [soloFrom, hp, soloFrom_stopped]

theorem soloAll_allStopped (members : List (Member σ)) (endIdx : Option Nat) (i : Nat) (recs : List Rec)
    (states : List (MSt σ)) (hl : members.length = states.length)
    (hall : stoppedCount states = states.length) : soloAll members endIdx i recs states = states := by
  have hs := stoppedCount_eq_length.mp hall
  unfold soloAll
  rw [List.map_congr_left (g := (·.2)) fun p hp => soloFrom_stopped p.1 endIdx i recs p.2 (hs p.2 (List.of_mem_zip hp).2),
    List.map_snd_zip]
  omega

/-- the members of a breadth-first run end exactly where they end alone.  The counter may lag behind the number of stopped members
    (`byLine` starts it at 0 whatever the members' states): the `break` then comes later or never, and a stopped member's fold is over
    anyway. -/
theorem byLineFrom_members (members : List (Member σ)) (endIdx : Option Nat) (ifAll : Bool) :
    ∀ (recs : List Rec) (i : Nat) (states : List (MSt σ)) (cnt : Nat),
      members.length = states.length → cnt ≤ stoppedCount states →
      (byLineFrom members endIdx ifAll i recs states cnt).2 = soloAll members endIdx i recs states := by
  intro recs
  induction recs with
  | nil =>
    intro i states cnt hl _
    simp only [byLineFrom, soloAll, soloFrom]
    rw [List.map_snd_zip]; omega
  | cons r rs ih =>
    intro i states cnt hl hc
    obtain ⟨h1, _, h2⟩ := stepMembers_spec endIdx ifAll i r (members.zip states) ifAll cnt
    rw [List.map_snd_zip (by omega)] at h2
    have hlen : (stepMembers endIdx ifAll i r (members.zip states) ifAll cnt).1.length = states.length := by
      rw [h1]; simp [List.length_zip]; omega
    have hle := stoppedCount_le (stepMembers endIdx ifAll i r (members.zip states) ifAll cnt).1
    rw [soloAll_cons, ← h1]
    simp only [byLineFrom]
    split
    · rename_i hbreak
      rw [soloAll_allStopped members endIdx (i + 1) rs _ (by omega) (by simp at hbreak; omega)]
    · exact ih (i + 1) _ _ (by omega) (by omega)

end Proofs.Group
