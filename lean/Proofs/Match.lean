import Model.Match
import Spec.Match
/-! Lemmas for C17: the token-level parser inverts `toks`.

Two kinds of fact.  The grammar's rules as the parser applies them, for any fuel (`pRhs_left`, `pArg_left`,
`pArg_eq`, `pExpr_left`, `pExpr_eq`, `fn_step`): each says that once a part has been read the whole is.
And the round trips (`…_rt`), by structural recursion over `Node`/`Args`, which put the rules together and
see to the fuel. -/
namespace Proofs.Match
open Model.Match Spec.Match

theorem need_pos (n : Node) : 3 ≤ need n := by
  cases n <;> simp [need]

/-- With the fuel of a component the parser can take three steps down (`pArg`, `pLeft`, `pArgs`) before it
    meets the component's parts; the round trips of a component are stated for `f` and proved for `f' + 3`. -/
theorem fuel3 {n : Node} {f : Nat} (hf : need n ≤ f) : ∃ f', f = f' + 3 :=
  ⟨f - 3, by have := need_pos n; omega⟩

theorem toks_head : (n : Node) → ∃ t ts, toks n = t :: ts ∧ t ∉ [Tok.rb, .rp, .equals, .when_, .assign]
  | .term t => by cases t <;> exact ⟨_, _, rfl, by simp [termTok]⟩
  | .header _ | .variable _ | .reference _ | .fn _ _ => ⟨_, _, rfl, by simp⟩
  | .eq op l r => by
    obtain ⟨t, ts, h, k⟩ := toks_head l
    exact ⟨t, ts ++ opTok op :: toks r, by simp [toks, h], k⟩

/-- the next token is none of `ops`: what a rule asks of the text after the part it has read -/
def notNext (ops rest : List Tok) : Prop := ∀ t ∈ ops, rest.head? ≠ some t

theorem notNext_cons {ops ts : List Tok} {t : Tok} : notNext ops (t :: ts) ↔ t ∉ ops := by
  simp [notNext, List.forall_mem_ne]

theorem notNext.mono {ops ops' rest : List Tok} (h : notNext ops rest) (hs : ops' ⊆ ops) : notNext ops' rest :=
  fun t ht => h t (hs ht)

/-- where `pLeft` succeeds the text starts with a header, a variable or a function name: this is what sends
    `pRhs`, `pArg` and `pExpr` to the branch that calls `pLeft` -/
theorem pLeft_start {f : Nat} {ts r : List Tok} {l : Node} (h : pLeft f ts = some (l, r)) :
    (∃ s, ts = .header s :: r) ∨ (∃ s, ts = .variable s :: r) ∨ ∃ n r0, ts = .fname n :: .lp :: r0 := by
  rw [pLeft.eq_def] at h
  split at h <;> simp_all

theorem pRhs_left {f : Nat} {ts r : List Tok} {l : Node} (h : pLeft f ts = some (l, r)) :
    pRhs (f + 1) ts = some (l, r) := by
  obtain ⟨s, rfl⟩ | ⟨s, rfl⟩ | ⟨n, r0, rfl⟩ := pLeft_start h <;> simpa [pRhs] using h

theorem pArg_left {f : Nat} {ts r : List Tok} {l : Node} (h : pLeft f ts = some (l, r))
    (hr : r.head? ≠ some .equals) : pArg (f + 1) ts = some (l, r) := by
  -- `hr` shuts out `pArg`'s branch for an equality
  obtain ⟨s, rfl⟩ | ⟨s, rfl⟩ | ⟨n, r0, rfl⟩ := pLeft_start h <;> simp only [pArg, h] <;> split <;> simp_all

theorem pArg_eq {f : Nat} {ts r r' : List Tok} {l x : Node} (h : pLeft f ts = some (l, .equals :: r))
    (hx : pRhs f r = some (x, r')) : pArg (f + 1) ts = some (.eq .eq l x, r') := by
  obtain ⟨s, rfl⟩ | ⟨s, rfl⟩ | ⟨n, r0, rfl⟩ := pLeft_start h <;> simp only [pArg, h, hx]

theorem pExpr_left {f : Nat} {ts r : List Tok} {l : Node} (h : pLeft f ts = some (l, r))
    (hr : notNext [.equals, .assign] r) :
    pExpr f ts = (whenTail f l r).map (fun p => (some p.1, p.2)) := by
  rw [pExpr, h]
  · split <;> simp_all [notNext]
  -- `pExpr`'s last equation asks that `ts` has none of the forms before it
  all_goals obtain ⟨s, rfl⟩ | ⟨s, rfl⟩ | ⟨n, r0, rfl⟩ := pLeft_start h <;> simp
  -- a variable is an expression of its own only if no `=` follows
  exact fun _ _ _ e => by simp [e, notNext] at hr

theorem pExpr_eq {f : Nat} {ts r r' : List Tok} {l x : Node} (h : pLeft f ts = some (l, .equals :: r))
    (hx : pRhs f r = some (x, r')) :
    pExpr f ts = (whenTail f (.eq .eq l x) r').map (fun p => (some p.1, p.2)) := by
  rw [pExpr, h]
  · simp only [hx]
  all_goals obtain ⟨s, rfl⟩ | ⟨s, rfl⟩ | ⟨n, r0, rfl⟩ := pLeft_start h <;> simp

/-- the first token of a non-empty argument list is not `)`, so `pArgs` goes on to `pArgs1` -/
theorem pArgs_cons (f : Nat) (a : Node) (more : Args) (rest : List Tok) :
    pArgs (f + 1) (toksArgs (.cons a more) ++ rest) = pArgs1 f (toksArgs (.cons a more) ++ rest) := by
  obtain ⟨t, ts, h, k⟩ := toks_head a
  obtain ⟨ts', h'⟩ : ∃ ts', toksArgs (.cons a more) = t :: ts' := by
    cases more <;> simp [toksArgs, h]
  have : t ≠ .rp := fun e => k (e ▸ by simp)
  rw [h', List.cons_append, pArgs]
  simp [this]

/-- the step every function node takes, given that its arguments, if it has any, parse -/
theorem fn_step {f : Nat} (n : List Char) {as : Args} {rest : List Tok}
    (h : as ≠ .nil → pArgs1 f (toksArgs as ++ .rp :: rest) = some (as, rest)) :
    pLeft (f + 2) (toks (.fn n as) ++ rest) = some (.fn n as, rest) := by
  have : pArgs (f + 1) (toksArgs as ++ .rp :: rest) = some (as, rest) := by
    cases as with
    | nil => rfl
    | cons a more => rw [pArgs_cons, h nofun]
  simp [toks, pLeft, this]

/- Structural recursion: every recursive call is on a part of the node or list at hand.  That is why a function
   node calls `fn_step` with `pArgs1_ne_rt as` in three places instead of `pLeft_rt` on itself, and why
   `pArgs1_ne_rt` speaks of a list `as ≠ .nil` and not of `.cons a more`. -/
mutual
theorem pLeft_rt : (n : Node) → okLeft n = true → ∀ (f : Nat) (rest : List Tok), need n ≤ f →
    pLeft f (toks n ++ rest) = some (n, rest)
  | .header s, _, f, rest, hf | .variable s, _, f, rest, hf => by obtain ⟨f, rfl⟩ := fuel3 hf; rfl
  | .fn n as, h, f, rest, hf => by
    obtain ⟨f, rfl⟩ := fuel3 hf
    exact fn_step n fun hne => pArgs1_ne_rt as hne h (f + 1) rest (by simp [need] at hf; omega)
termination_by structural n => n

theorem pRhs_rt : (n : Node) → okRhs n = true → ∀ (f : Nat) (rest : List Tok), need n ≤ f →
    pRhs f (toks n ++ rest) = some (n, rest)
  | .term t, _, f, rest, hf => by obtain ⟨f, rfl⟩ := fuel3 hf; cases t <;> rfl
  | .reference _, _, f, rest, hf | .header _, _, f, rest, hf | .variable _, _, f, rest, hf => by
    obtain ⟨f, rfl⟩ := fuel3 hf; rfl
  | .fn n as, h, f, rest, hf => by
    obtain ⟨f, rfl⟩ := fuel3 hf
    exact pRhs_left (fn_step n fun hne => pArgs1_ne_rt as hne h f rest (by simp [need] at hf; omega))
termination_by structural n => n

theorem pArg_rt : (n : Node) → okArg n = true → ∀ (f : Nat) (rest : List Tok), need n ≤ f →
    rest.head? ≠ some .equals → pArg f (toks n ++ rest) = some (n, rest)
  | .term t, _, f, rest, hf, _ => by obtain ⟨f, rfl⟩ := fuel3 hf; cases t <;> rfl
  | .reference s, _, f, rest, hf, _ => by obtain ⟨f, rfl⟩ := fuel3 hf; rfl
  | .header _, _, f, rest, hf, hr | .variable _, _, f, rest, hf, hr => by
    obtain ⟨f, rfl⟩ := fuel3 hf; exact pArg_left rfl hr
  | .fn n as, h, f, rest, hf, hr => by
    obtain ⟨f, rfl⟩ := fuel3 hf
    exact pArg_left (fn_step n fun hne => pArgs1_ne_rt as hne h f rest (by simp [need] at hf; omega)) hr
  | .eq .eq l r, h, f, rest, hf, _ => by
    obtain ⟨f, rfl⟩ := fuel3 hf
    rw [okArg, Bool.and_eq_true] at h
    simp only [need] at hf
    have hl := pLeft_rt l h.1 (f + 2) (.equals :: (toks r ++ rest)) (by omega)
    simp only [toks, opTok, List.append_assoc, List.cons_append]
    exact pArg_eq hl (pRhs_rt r h.2 (f + 2) rest (by omega))
termination_by structural n => n

theorem pArgs1_ne_rt : (as : Args) → as ≠ .nil → okArgs as = true → ∀ (f : Nat) (rest : List Tok),
    needArgs as ≤ f → pArgs1 f (toksArgs as ++ .rp :: rest) = some (as, rest)
  | .cons a .nil, _, h, f + 1, rest, hf => by
    simp only [okArgs, Bool.and_true] at h
    simp [toksArgs, pArgs1, pArg_rt a h f (.rp :: rest) (by simp [needArgs] at hf; omega) (by simp)]
  | .cons a (.cons b more), _, h, f + 1, rest, hf => by
    rw [okArgs, Bool.and_eq_true] at h
    simp only [needArgs] at hf
    have h1 := pArg_rt a h.1 f (.comma :: (toksArgs (.cons b more) ++ .rp :: rest)) (by omega) (by simp)
    have h2 := pArgs1_ne_rt (.cons b more) nofun h.2 f rest (by simp only [needArgs]; omega)
    simp [toksArgs, pArgs1, h1, h2]
termination_by structural as => as
end

theorem pArgs1_rt : (a : Node) → (more : Args) → okArgs (.cons a more) = true → ∀ (f : Nat) (rest : List Tok),
    needArgs (.cons a more) ≤ f →
    pArgs1 f (toksArgs (.cons a more) ++ .rp :: rest) = some (.cons a more, rest) :=
  fun a more => pArgs1_ne_rt (.cons a more) nofun

theorem pArgs_rt : (as : Args) → okArgs as = true → ∀ (f : Nat) (rest : List Tok), needArgs as + 1 ≤ f →
    pArgs f (toksArgs as ++ .rp :: rest) = some (as, rest)
  | .nil, _, f + 1, rest, _ => rfl
  | .cons a more, h, f + 1, rest, hf => by rw [pArgs_cons, pArgs1_rt a more h f rest (by omega)]

theorem pAction_rt : (act : Node) → okAction act = true → ∀ (f : Nat) (rest : List Tok), need act ≤ f →
    pAction f (toks act ++ rest) = some (act, rest)
  | .fn n as, h, f, rest, hf => pLeft_rt (.fn n as) h f rest hf
  | .eq .assign (.variable s) r, h, f, rest, hf => by
    simp [toks, opTok, pAction, pRhs_rt r h f rest (by simp [need] at hf; omega)]

theorem whenTail_plain (f : Nat) (x : Node) (rest : List Tok) (h : rest.head? ≠ some .when_) :
    whenTail f x rest = some (x, rest) := by
  unfold whenTail
  split <;> simp_all

theorem whenTail_act (f : Nat) (x act : Node) (rest : List Tok) (h : okAction act = true) (hf : need act ≤ f) :
    whenTail f x (.when_ :: (toks act ++ rest)) = some (.eq .when_ x act, rest) := by
  simp [whenTail, pAction_rt act h f rest hf]

/-- what stands before `->`, or a whole component without `->`: `pExpr` reads it and goes on to the tail -/
theorem acted_rt : (x : Node) → okActedOn x = true → ∀ (f : Nat) (tail : List Tok), need x ≤ f →
    notNext [.equals, .assign] tail →
    pExpr f (toks x ++ tail) = (whenTail f x tail).map (fun p => (some p.1, p.2))
  | .reference s, _, f, tail, _, _ => rfl
  | .eq .eq l r, h, f, tail, hf, _ => by
    rw [okActedOn, Bool.and_eq_true] at h
    simp only [need] at hf
    have hl := pLeft_rt l h.1 f (.equals :: (toks r ++ tail)) (by omega)
    simp only [toks, opTok, List.append_assoc, List.cons_append]
    exact pExpr_eq hl (pRhs_rt r h.2 f tail (by omega))
  | .header s, h, f, tail, hf, ht | .variable s, h, f, tail, hf, ht | .fn _ _, h, f, tail, hf, ht =>
    pExpr_left (pLeft_rt _ h f tail hf) ht

theorem pExpr_rt : (e : Node) → okExpr e = true → ∀ (f : Nat) (rest : List Tok), need e ≤ f →
    notNext [.equals, .when_, .assign] rest → pExpr f (toks e ++ rest) = some (some e, rest)
  | .eq .assign (.variable s) r, h, f, rest, hf, _ => by
    simp [toks, opTok, pExpr, pRhs_rt r h f rest (by simp [need] at hf; omega)]
  | .eq .when_ x act, h, f, rest, hf, _ => by
    rw [okExpr, Bool.and_eq_true] at h
    simp only [need] at hf
    have := acted_rt x h.1 f (.when_ :: (toks act ++ rest)) (by omega) (notNext_cons.2 (by simp))
    simpa [toks, opTok, whenTail_act f x act rest h.2 (by omega)] using this
  | .reference _, h, f, rest, hf, hr | .header _, h, f, rest, hf, hr | .variable _, h, f, rest, hf, hr
  | .fn _ _, h, f, rest, hf, hr | .eq .eq _ _, h, f, rest, hf, hr => by
    rw [acted_rt _ (by exact h) f rest hf (hr.mono (by simp)), whenTail_plain f _ rest (hr _ (by simp))]
    rfl

theorem itemToks_head (i : Item) : ∃ t ts, itemToks i = t :: ts ∧ t ∉ [Tok.rb, .rp, .equals, .when_, .assign] := by
  cases i with
  | comp e => exact toks_head e
  | comment => exact ⟨_, _, rfl, by simp⟩

mutual
theorem need_le : (n : Node) → need n ≤ 3 * (toks n).length
  | .term _ | .header _ | .variable _ | .reference _ => by simp [need, toks]
  | .fn _ as => by
    have := needArgs_le as
    simp [need, toks]; omega
  | .eq _ l r => by
    have h1 := need_le l
    have h2 := need_le r
    simp [need, toks]; omega
theorem needArgs_le : (as : Args) → needArgs as ≤ 3 * (toksArgs as).length + 6
  | .nil => by simp [needArgs, toksArgs]
  | .cons a .nil => by
    have := need_le a
    simp [needArgs, toksArgs]; omega
  | .cons a (.cons b m) => by
    have h1 := need_le a
    have h2 := needArgs_le (.cons b m)
    simp [needArgs, toksArgs] at h2 ⊢; omega
end

/-- the item loop, given fuel for the tokens that are left: three per token for a component (`need_le`), one
    turn of the loop per token -/
theorem pExprs_rt (f : Nat) : (items : List Item) → okItems items = true → ∀ n,
    3 * ((items.map itemToks).flatten).length ≤ f → ((items.map itemToks).flatten).length < n →
    pExprs f n ((items.map itemToks).flatten ++ [.rb]) = some (comps items)
  | [], _, n + 1, _, _ => rfl
  | i :: rest, hok, n + 1, hf, hn => by
    rw [okItems, List.all_cons, Bool.and_eq_true] at hok
    obtain ⟨t, ts, hts, hk⟩ := itemToks_head i
    have hpos : 0 < (itemToks i).length := by simp [hts]
    simp only [List.map_cons, List.flatten_cons, List.length_append, List.append_assoc] at hf hn ⊢
    have ih := pExprs_rt f rest hok.2 n (by omega) (by omega)
    -- what follows an item is another item or the closing bracket
    have hstop : notNext [.equals, .when_, .assign] ((rest.map itemToks).flatten ++ [.rb]) := by
      cases rest with
      | nil => simp [notNext_cons]
      | cons j _ =>
        obtain ⟨t, ts, h, k⟩ := itemToks_head j
        simp at k
        simp [notNext_cons, h, k]
    have hrb : itemToks i ++ ((rest.map itemToks).flatten ++ [.rb]) ≠ [.rb] := by
      simp at hk; simp [hts, hk]
    rw [pExprs]
    · cases i with
      | comment => simpa [itemToks, pExpr, comps] using ih
      | comp e =>
        have he := pExpr_rt e hok.1 f _ (by have := need_le e; simp only [itemToks] at hf; omega) hstop
        simp [itemToks, he, ih, comps]
    · exact hrb

theorem comps_map (es : List Node) : comps (es.map Item.comp) = es := by
  induction es with
  | nil => rfl
  | cons e rest ih => simp [comps, ih]

theorem ok_comps (items : List Item) (h : okItems items = true) : okItems ((comps items).map Item.comp) = true := by
  induction items with
  | nil => rfl
  | cons i rest ih =>
    rw [okItems, List.all_cons, Bool.and_eq_true] at h
    cases i with
    | comment => exact ih h.2
    | comp e => simpa [okItems, comps, h.1] using ih h.2

end Proofs.Match
