/-
  The group file of the named-paths store read back: Python's `str.split` (`splitGo`) on a text
  that `_str_from_list` wrote.  The model's `hasInfix` is the library's `<:+:` (`hasInfix_iff`), so
  where the marker can start in a text is settled by the library's prefix lemmas.
-/
import Model.PathsStore

namespace Proofs.Paths
open Model.Paths

theorem hasInfix_iff (sep s : Str) : hasInfix sep s = true ↔ sep <:+: s := by
  induction s with
  | nil => simp [hasInfix]
  | cons c cs ih => simp [hasInfix, List.infix_cons_iff, ih]

theorem splitGo_skip (sep : Str) (a r cur : Str) :
    splitGo sep a.length (a ++ r) cur = splitGo sep 0 r cur := by
  induction a with
  | nil => rfl
  | cons x xs ih => simpa [splitGo] using ih

/-- a stretch of text in which the separator starts nowhere is accumulated -/
theorem splitGo_plain (sep : Str) (q r cur : Str)
    (h : ∀ a b, q = a ++ b → b ≠ [] → sep.isPrefixOf (b ++ r) = false) :
    splitGo sep 0 (q ++ r) cur = splitGo sep 0 r (q.reverse ++ cur) := by
  induction q generalizing cur with
  | nil => rfl
  | cons x xs ih =>
    have h0 : sep.isPrefixOf (x :: (xs ++ r)) = false := h [] (x :: xs) rfl (by simp)
    simp only [List.cons_append, splitGo, h0, Bool.false_eq_true, if_false]
    rw [ih _ fun a b hab hb => h (x :: a) b (by rw [hab]; rfl) hb]
    simp

theorem splitGo_sep (sep : Str) (hne : sep ≠ []) (r cur : Str) :
    splitGo sep 0 (sep ++ r) cur = cur.reverse :: splitGo sep 0 r [] := by
  cases sep with
  | nil => exact absurd rfl hne
  | cons c cs =>
    have hp : (c :: cs).isPrefixOf (c :: (cs ++ r)) = true := by
      simp [List.isPrefixOf]
    simp only [List.cons_append, splitGo, hp, if_true, List.length_cons, Nat.add_sub_cancel]
    rw [splitGo_skip]

theorem splitGo_noInfix (sep q cur : Str) (hinf : ¬ sep <:+: q) :
    splitGo sep 0 q cur = [cur.reverse ++ q] := by
  have h : ∀ a b, q = a ++ b → b ≠ [] → sep.isPrefixOf (b ++ []) = false := by
    intro a b hab _
    rw [List.append_nil, Bool.eq_false_iff, Ne, List.isPrefixOf_iff_prefix]
    exact fun hp => hinf (hab ▸ List.infix_append_of_infix_right hp.isInfix)
  simpa [splitGo] using splitGo_plain sep q [] cur h

/-- A separator that starts inside `q`, in `q ++ r`, lies within `q` or runs over its end; the
    second needs the last character of `q` to be one of its own.  (The marker overlaps itself, so
    "does not contain it" alone would not do.) -/
theorem noStart_of_clean (sep q r : Str) (hinf : ¬ sep <:+: q)
    (hlast : ∀ c, q.getLast? = some c → c ∉ sep) :
    ∀ a b, q = a ++ b → b ≠ [] → sep.isPrefixOf (b ++ r) = false := by
  intro a b hab hb
  apply Bool.eq_false_iff.mpr
  intro hp
  rcases List.prefix_or_prefix_of_prefix (List.isPrefixOf_iff_prefix.mp hp)
    (List.prefix_append b r) with h | h
  · exact hinf (hab ▸ List.infix_append_of_infix_right h.isInfix)
  · refine hlast (b.getLast hb) ?_ (h.mem (List.getLast_mem hb))
    rw [hab, List.getLast?_append, List.getLast?_eq_some_getLast hb, Option.some_or]

theorem noStart_single (c : Char) (h r : Str) (hm : c ∉ h) :
    ∀ a b, h = a ++ b → b ≠ [] → [c].isPrefixOf (b ++ r) = false :=
  noStart_of_clean [c] h r (fun hi => hm (hi.subset (.head _)))
    fun _ hl hcm => hm (List.mem_singleton.mp hcm ▸ List.mem_of_getLast? hl)

def nl2 : Str := ['\n', '\n']

/-- what `_get_named_paths` returns for a group written by `_str_from_list`: every csvpath with
    blank lines around it (the last one only in front) -/
def pieces : List Str → List Str
  | [] => []
  | [p] => [nl2 ++ p]
  | p :: p' :: r => (nl2 ++ p ++ nl2) :: pieces (p' :: r)

def groupText : List Str → Str
  | [] => []
  | [p] => marker ++ (nl2 ++ p)
  | p :: p' :: r => marker ++ (nl2 ++ p ++ nl2) ++ groupText (p' :: r)

theorem joiner_eq : joiner = nl2 ++ marker ++ nl2 := by decide

theorem strFromList_eq (ps : List Str) (hne : ps ≠ []) : strFromList ps = nl2 ++ groupText ps := by
  have gen : ∀ (ps : List Str) (acc : Str), ps ≠ [] →
      ps.foldl (fun f p => f ++ joiner ++ p) acc = acc ++ nl2 ++ groupText ps := by
    intro ps
    induction ps with
    | nil => intro acc h; exact absurd rfl h
    | cons p r ih =>
      intro acc _
      cases r with
      | nil => simp only [List.foldl_cons, List.foldl_nil, groupText, joiner_eq, List.append_assoc]
      | cons p' r' =>
        rw [List.foldl_cons, ih _ (by simp)]
        simp only [groupText, joiner_eq, List.append_assoc]
  simpa [strFromList] using gen ps [] hne

/-- a csvpath is clean when the marker does not occur in it (stated with the blank lines the
    group file puts around it, which contain no marker character) -/
def Clean (p : Str) : Prop := hasInfix marker (nl2 ++ p ++ nl2) = false

theorem marker_ne : marker ≠ [] := by decide

/-- no newline in the marker, in the form `last_nl` takes it -/
theorem nl_not_in_marker : ∀ c, (nl2 ++ ([] : Str) ++ nl2).getLast? = some c → c ∉ marker := by decide

theorem last_nl (q : Str) : ∀ c, (q ++ nl2).getLast? = some c → c ∉ marker := by
  intro c h
  exact nl_not_in_marker c (by simpa [nl2] using h)

theorem Clean.not_infix {p : Str} (hp : Clean p) : ¬ marker <:+: nl2 ++ p ++ nl2 :=
  fun h => Bool.eq_false_iff.mp hp ((hasInfix_iff ..).mpr h)

theorem split_groupText (ps : List Str) (hc : ∀ p ∈ ps, Clean p) (hne : ps ≠ []) (cur : Str) :
    splitGo marker 0 (groupText ps) cur = cur.reverse :: pieces ps := by
  induction ps generalizing cur with
  | nil => exact absurd rfl hne
  | cons p r ih =>
    obtain ⟨hp, hc⟩ := List.forall_mem_cons.mp hc
    cases r with
    | nil =>
      rw [groupText, splitGo_sep marker marker_ne,
        splitGo_noInfix marker _ [] fun h => hp.not_infix (List.infix_append_of_infix_left h)]
      rfl
    | cons p' r' =>
      rw [groupText, List.append_assoc, splitGo_sep marker marker_ne,
        splitGo_plain marker _ _ [] (noStart_of_clean marker _ _ hp.not_infix (last_nl _)),
        ih hc (by simp)]
      simp [pieces]

theorem split_strFromList (ps : List Str) (hne : ps ≠ []) (hc : ∀ p ∈ ps, Clean p) :
    split marker (strFromList ps) = nl2 :: pieces ps := by
  rw [split, strFromList_eq ps hne,
    splitGo_plain marker nl2 _ [] (noStart_of_clean marker nl2 _ (by decide) (last_nl [])),
    split_groupText ps hc hne]
  rfl

theorem manifestAdd_concat {δ : Type} [DecidableEq δ] (m : List δ) (x f : δ) :
    manifestAdd (m ++ [x]) f = if x = f then m ++ [x] else m ++ [x] ++ [f] := by
  simp [manifestAdd]

end Proofs.Paths
