import Model.Interp
/-! What `produceFn` answers for `concat`, `length`, `strip`, `starts_with`, `add` (the clauses of `Props.C01.c01_strings_math`) and
    `decideFn` for `exists`; `fn_branch` takes a call with a literal name to its branch. -/
namespace Proofs.Funcs
open Model.Interp Model.Val

/-- `decideFn` and `produceFn` dispatch on the function's name by a chain of some seventy `if name == "…"` or
    `[…].contains name`.  `fn_branch f` unfolds the dispatcher `f` in every call in the goal and leaves, for each call with a
    literal name, the body of that name's branch: `String.reduceBEq` decides each test and `↓reduceIte` takes the branch *before*
    the branches are simplified; with `if_false` in its place every dead branch is simplified first, at fifty times the cost. -/
macro "fn_branch " f:ident : tactic => `(tactic|
  (unfold $f
   simp only [String.reduceBEq, List.contains_cons, List.contains_nil, Bool.or_self, Bool.false_or, Bool.false_eq_true,
     ↓reduceIte, and_self]))

theorem fn_exists (fuel : Nat) (env : Env) (id : Nat) (q : List String) (a : Node) (s : ES) :
    (decideFn (fuel + 1) env id "exists" q [a] s).1 = some (!isEmptyV (evalV fuel env a s).1) := by
  fn_branch decideFn

section produce
variable {fuel : Nat} {env : Env} {id : Nat} {q : List String} {a b : Node} {s s1 s2 : ES}

/-- `concat`: a fold that appends the `fmt` of each argument's value, in the state the arguments leave -/
theorem fn_concat {x y : String} (h1 : evalV fuel env a s = (.str x, s1)) (h2 : evalV fuel env b s1 = (.str y, s2)) :
    produceFn (fuel + 1) env id "concat" q [a, b] s = (.str (x ++ y), s2) := by
  fn_branch produceFn
  simp [h1, h2, fmt, pyFormat, fmtScalar]

/-- `length`: 0 for a value that is not truthy (here the empty string), else the length of its `fmt` -/
theorem fn_length {x : String} (h1 : evalV fuel env a s = (.str x, s1)) :
    produceFn (fuel + 1) env id "length" q [a] s = (.int x.length, s1) := by
  fn_branch produceFn
  by_cases h : x = "" <;> simp [h1, fmt, pyFormat, fmtScalar, truthy, h]

/-- `strip` shares its branch with `lower` and `upper` -/
theorem fn_strip {x : String} (h1 : evalV fuel env a s = (.str x, s1)) :
    produceFn (fuel + 1) env id "strip" q [a] s = (.str (Model.PyStr.strip x), s1) := by
  fn_branch produceFn
  simp [h1, fmt, pyFormat, fmtScalar]

theorem fn_starts_with {x y : String} (h1 : evalV fuel env a s = (.str x, s1)) (h2 : evalV fuel env b s1 = (.str y, s2)) :
    produceFn (fuel + 1) env id "starts_with" q [a, b] s =
      (.bool ((Model.PyStr.strip y).toList.isPrefixOf (Model.PyStr.strip x).toList), s2) := by
  fn_branch produceFn
  simp [h1, h2, fmt, pyFormat, fmtScalar]

/-- `add`: a fold from 0 over the `pyFloat` of each argument's value -/
theorem fn_add {x y : Int} (h1 : evalV fuel env a s = (.int x, s1)) (h2 : evalV fuel env b s1 = (.int y, s2)) :
    produceFn (fuel + 1) env id "add" q [a, b] s = (.flt (x + y), s2) := by
  fn_branch produceFn
  simp [h1, h2, pyFloat, isNone]

end produce

end Proofs.Funcs
