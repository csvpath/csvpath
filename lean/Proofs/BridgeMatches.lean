import Proofs.PyNorm
import Model.MatchTop

/-! For the bridge of the top level of a match (`Props.MatchTie`).  The match components (`et[0].matches(skip=[])`),
    `clear_errors()` and `_do_lasts()` are arbitrary functions of the environment that keep `Contract`, so the bridge holds for every
    csvpath whose components do not use the onmatch look-ahead (they leave the `et[1]` marks alone; a component's own is written by
    the loop).  The loop is `loop_is_go`: a body and a tail that meet `BodySpec` and `EndSpec` compute `Model.MatchTop.go`; `mt_loop`
    shows that of the generated body and tail. -/
namespace Proofs.BridgeMatches
open Model.MatchTop

/-- the environment key of `self.expressions[i][1]` -/
abbrev ckey (i : Nat) : String := Py.ikey "self.expressions" i "[1]"

theorem ikey_len (p : String) (i : Nat) (f : String) : (Py.ikey p i f).length = 2 + i + p.length + f.length := by
  have h1 : "#".length = 1 := by decide
  simp [Py.ikey, Py.stars, String.length_append, h1]; omega

theorem ckey_inj (i j : Nat) (h : ckey i = ckey j) : i = j := by
  have := congrArg String.length h
  simp [ikey_len] at this; omega

theorem ikey_front (p : String) (i : Nat) (f : String) : (Py.ikey p i f).toList.head? = some '#' := by
  simp [Py.ikey, String.toList_append]

/-- an attribute path is not the key of an element field -/
theorem ckey_ne (i : Nat) (k : String) (hk : k.toList.head? ≠ some '#') : ckey i ≠ k := by
  intro h
  exact hk (h ▸ ikey_front _ _ _)

/-- no key reads as an exception (a missing attribute would) -/
def Clean (e : Py.Env) : Prop := ∀ k, Py.isExc (e k) = false

/-- the world of `Model.MatchTop` made of the Python world -/
def world (ext : Py.Ext) (n : Nat) : World Py.Env where
  n := n
  evalE i e :=
    let out := ext "expr_matches" [.int i, .strs []] e
    let vote := !(Py.isb out.1 (.bool false))
    (vote, Py.upd out.2 (ckey i) (.bool vote))
  stopped e := Py.truthy (e "self.csvpath.stopped")
  skip e := Py.isb (e "self.skip") (.bool true)
  clearSkip e := Py.upd e "self.skip" (.bool false)
  clearErrors e := (ext "clear_errors" [] e).2
  doLasts e := (ext "do_lasts" [] e).2
  finish e := if Py.truthy (e "self.csvpath.explain") then Py.upd e "self.explaination" (.strs []) else e

/-- what the bridge assumes of the world: calls return values and leave values (not exceptions) in the environment; a match
    component leaves the logic mode, the csvpath object and the `et[1]` marks alone (no look-ahead) -/
structure Contract (ext : Py.Ext) : Prop where
  value : ∀ name a e, Py.isExc (ext name a e).1 = false
  clean : ∀ name a e, Clean e → Clean (ext name a e).2
  andMode : ∀ a e, (ext "expr_matches" a e).2 "self._AND" = e "self._AND"
  obj : ∀ a e, (ext "expr_matches" a e).2 "self.csvpath" = e "self.csvpath"
  marks : ∀ a e j, (ext "expr_matches" a e).2 (ckey j) = e (ckey j)

/-- the loop invariant before component `idx` -/
structure Inv (dm : Bool) (idx : Nat) (e : Py.Env) : Prop where
  clean : Clean e
  andMode : e "self._AND" = .bool dm
  obj : Py.truthy (e "self.csvpath") = true
  fresh : ∀ j, idx ≤ j → e (ckey j) = .none

theorem clean_upd (e : Py.Env) (k : String) (v : Py.V) (h : Clean e) (hv : Py.isExc v = false) : Clean (Py.upd e k v) := by
  intro k'
  simp only [Py.upd]
  split <;> simp_all [Clean]

theorem inv_step (ext : Py.Ext) (n : Nat) (hC : Contract ext) (dm : Bool) (idx : Nat) (e : Py.Env) (h : Inv dm idx e) :
    Inv dm (idx + 1) ((world ext n).evalE idx e).2 := by
  obtain ⟨h1, h2, h3, h4⟩ := h
  have n1 : ¬ "self._AND" = ckey idx := fun hh => ckey_ne idx "self._AND" (by decide) hh.symm
  have n2 : ¬ "self.csvpath" = ckey idx := fun hh => ckey_ne idx "self.csvpath" (by decide) hh.symm
  refine ⟨?_, ?_, ?_, ?_⟩
  · exact clean_upd _ _ _ (hC.clean _ _ _ h1) rfl
  · simp only [world, Py.upd, n1, if_false]; rw [hC.andMode]; exact h2
  · simp only [world, Py.upd, n2, if_false]; rw [hC.obj]; exact h3
  · intro j hj
    have hne : ¬ ckey j = ckey idx := fun hh => by have := ckey_inj _ _ hh; omega
    simp only [world, Py.upd, hne, if_false]
    rw [hC.marks]; exact h4 j (by omega)

/-- what a run of a translated method returned and left behind (the effect log aside) -/
def okVE : Py.H.Res → Option (Py.V × Py.Env)
  | .ok v e _ => some (v, e)
  | .raised _ _ _ => Option.none

/-- what the loop body must do (the effect log aside): end the match at a stop or a skip, otherwise hand the vote, folded into
    `failed`, and the state the component left to the next round.  `p` is the place of `failed` among the loop-carried locals
    (whatever the source's other locals are). -/
def BodySpec (ext : Py.Ext) (n : Nat) (dm : Bool) (p : Nat)
    (body : Nat → List Py.V → Py.Env → List Py.Eff → Py.H.K → Py.H.K → Py.H.Res) : Prop :=
  ∀ idx locs fb e effs (next brk : Py.H.K), Inv dm idx e → Py.nth locs p = .bool fb →
    (((world ext n).stopped e = true → ∃ effs', body idx locs e effs next brk =
        .ok (.bool false) ((world ext n).clearErrors e) effs') ∧
     ((world ext n).stopped e = false → (world ext n).skip e = true → ∃ effs', body idx locs e effs next brk =
        .ok (.bool false) ((world ext n).clearErrors ((world ext n).clearSkip e)) effs') ∧
     ((world ext n).stopped e = false → (world ext n).skip e = false → ∃ locs' effs', body idx locs e effs next brk =
        next locs' ((world ext n).evalE idx e).2 effs' ∧
        Py.nth locs' p = .bool (fold dm fb ((world ext n).evalE idx e).1)))

/-- what the code after the loop must do -/
def EndSpec (ext : Py.Ext) (n : Nat) (dm : Bool) (p : Nat) (k : Py.H.K) : Prop :=
  ∀ idx locs fb e effs, Inv dm idx e → Py.nth locs p = .bool fb →
    (((world ext n).skip e = true → ∃ effs', k locs e effs =
        .ok (.bool false) ((world ext n).clearErrors ((world ext n).clearSkip e)) effs') ∧
     ((world ext n).skip e = false → ∃ effs', k locs e effs =
        .ok (.bool (!fb)) ((world ext n).finish ((world ext n).clearErrors e)) effs'))

/-- the loop combinator run with a body and an end that meet their specifications computes `Model.MatchTop.go`: by induction on the
    rounds to go, which `go` counts down next to the index just as `Py.H.forGo` does (`Py.H.forGo_rule` fixes their sum) -/
theorem loop_is_go (ext : Py.Ext) (n : Nat) (dm : Bool) (p : Nat) (hC : Contract ext)
    (body : Nat → List Py.V → Py.Env → List Py.Eff → Py.H.K → Py.H.K → Py.H.Res) (k : Py.H.K)
    (hb : BodySpec ext n dm p body) (hk : EndSpec ext n dm p k) :
    ∀ r idx locs fb e effs, Inv dm idx e → Py.nth locs p = .bool fb →
      okVE (Py.H.forGo body k r idx locs e effs) =
        some (.bool (go (world ext n) dm r idx e fb).1, (go (world ext n) dm r idx e fb).2) := by
  intro r
  induction r with
  | zero =>
    intro idx locs fb e effs hinv hl
    obtain ⟨k1, k2⟩ := hk idx locs fb e effs hinv hl
    simp only [Py.H.forGo, go]
    cases hs : (world ext n).skip e
    · obtain ⟨effs', h⟩ := k2 hs; rw [h]; simp [okVE]
    · obtain ⟨effs', h⟩ := k1 hs; rw [h]; simp [okVE]
  | succ r ih =>
    intro idx locs fb e effs hinv hl
    obtain ⟨b1, b2, b3⟩ := hb idx locs fb e effs
      (fun locs env effs => Py.H.forGo body k r (idx + 1) locs env effs) k hinv hl
    simp only [Py.H.forGo, go]
    cases h1 : (world ext n).stopped e
    case true => obtain ⟨effs', h⟩ := b1 h1; rw [h]; simp [okVE]
    cases h2 : (world ext n).skip e
    case true => obtain ⟨effs', h⟩ := b2 h1 h2; rw [h]; simp [okVE]
    obtain ⟨locs', effs', h, hl'⟩ := b3 h1 h2
    rw [h, ih (idx + 1) locs' _ _ effs' (inv_step ext n hC dm idx e hinv) hl']
    simp

/-! ### the blank last line -/

def optNatV : Option Nat → Py.V
  | some n => .int n
  | Option.none => .none

/-- the fields of the line monitor and the line `Matcher.matches` reads for the blank-last-line test -/
structure LineInfo (e : Py.Env) (r : List String) (endIdx : Option Nat) (i : Nat) : Prop where
  line : e "self.line" = .strs r
  lineNo : e "self.csvpath.line_monitor._physical_line_number" = .int i
  endNo : e "self.csvpath.line_monitor._physical_end_line_number" = optNatV endIdx

def blankLast (r : List String) (endIdx : Option Nat) (i : Nat) : Bool := (endIdx == some i) && r.isEmpty

theorem eq_optNat (e : Option Nat) (i : Nat) : Py.eq (optNatV e) (.int i) = .bool (e == some i) :=
  match e with
  | none => rfl
  | some n => Py.eq_nat n i

/-! ### the operators and statements `Matcher.matches` is made of -/

theorem setattr_bool (path : String) (b : Bool) (env : Py.Env) (effs : List Py.Eff) (k : Py.Env → List Py.Eff → Py.H.Res) :
    Py.H.setattr path (.bool b) env effs k = k (Py.upd env path (.bool b)) (effs ++ [{ name := "set " ++ path, args := [.bool b] }]) := rfl
theorem setattr_strs (path : String) (b : List String) (env : Py.Env) (effs : List Py.Eff) (k : Py.Env → List Py.Eff → Py.H.Res) :
    Py.H.setattr path (.strs b) env effs k = k (Py.upd env path (.strs b)) (effs ++ [{ name := "set " ++ path, args := [.strs b] }]) := rfl
theorem upd_same (e : Py.Env) (k : String) (v : Py.V) : Py.upd e k v k = v := Py.upd_same e k v
theorem nth0 (a b c : Py.V) : Py.nth [a, b, c] 0 = a := rfl
theorem nth1 (a b c : Py.V) : Py.nth [a, b, c] 1 = b := rfl
theorem nth2 (a b c : Py.V) : Py.nth [a, b, c] 2 = c := rfl
theorem nth_cons_zero (a : Py.V) (l : List Py.V) : Py.nth (a :: l) 0 = a := rfl
theorem nth_cons_succ (a : Py.V) (l : List Py.V) (i : Nat) : Py.nth (a :: l) (i + 1) = Py.nth l i := rfl
theorem isExc_bool (b : Bool) : Py.isExc (.bool b) = false := rfl
theorem isExc_none : Py.isExc Py.V.none = false := rfl
theorem not_clean (v : Py.V) (h : Py.isExc v = false) : Py.not_ v = .bool (!Py.truthy v) := Py.not_clean h
theorem or_bool (a : Bool) (x : Py.V) : Py.or_ (.bool a) x = if a = true then .bool a else x := by cases a <;> rfl
theorem isb_bool (a b : Bool) : Py.isb (.bool a) (.bool b) = (a == b) := rfl
theorem is_none_bool (b : Bool) : Py.is_ Py.V.none (.bool b) = .bool false := rfl
theorem isnot_bool (v : Py.V) (b : Bool) (h : Py.isExc v = false) : Py.isnot v (.bool b) = .bool (!Py.isb v (.bool b)) :=
  Py.isnot_bool h
theorem letv_bool (b : Bool) (env : Py.Env) (effs : List Py.Eff) (k : Py.V → Py.H.Res) : Py.H.letv (.bool b) env effs k = k (.bool b) := rfl
theorem ret_bool (b : Bool) (env : Py.Env) (effs : List Py.Eff) : Py.H.ret (.bool b) env effs = .ok (.bool b) env effs := rfl
theorem ret_ok (v : Py.V) (env : Py.Env) (effs : List Py.Eff) (h : Py.isExc v = false) : Py.H.ret v env effs = .ok v env effs :=
  Py.H.ret_ok h
theorem bind_ok (v : Py.V) (env : Py.Env) (effs : List Py.Eff) (k : Py.V → Py.Env → List Py.Eff → Py.H.Res) :
    Py.H.bind (.ok v env effs) k = k v env effs := rfl

set_option hygiene false in
/-- a step of the symbolic run, in a round of the loop whose environment `e'` is clean (`d1`; `d3`, `hl`, `hval` are in scope too):
    `py_eval`, the prelude on values that are no exceptions, the two opaque calls, reads past a write, and what the case at hand adds -/
macro "mt_norm" "[" ts:Lean.Parser.Tactic.simpLemma,* "]" loc:(Lean.Parser.Tactic.location)? : tactic => `(tactic|
  simp only [py_eval, Py.and_truthy d3, Py.H.cond_clean (d1 _), d1 _, Py.is_bool (d1 _), Py.isnot_bool (d1 _),
    Py.not_clean (d1 _), Py.H.call_ok [] rfl (hval _ _ _), Py.H.call_ok [.int _, .strs []] rfl (hval _ _ _),
    Py.upd_other, String.reduceEq, not_false_eq_true, world, hl, $ts,*] $[$loc]?)

set_option hygiene false in
/-- the loop of `Matcher.matches` with `failed` at place `p` of the carried locals: the generated body and tail meet `BodySpec` and
    `EndSpec`, by a symbolic run in each of the cases the specifications distinguish.  Taken from the call site: `ext n dm e effs`, `hC`,
    the parts `c1 … c4` of `Inv dm 0 e`, and `hval : hC.value`.  The two closing `rfl`: `failed` starts as `!dm` at place `p` of the first
    locals — not so at another place, which is how `first | mt_loop 0 | mt_loop 1 | …` finds it — and `(world ext n).n` is `n`. -/
macro "mt_loop" p:term : tactic => `(tactic|
  (refine (loop_is_go ext n dm $p hC _ _ ?hb ?hk n 0 _ (!dm) e effs ⟨c1, c2, c3, c4⟩ ?_).trans ?_
   case hb =>
     intro idx locs fb e' effs' next brk hinv' hl
     obtain ⟨d1, d2, d3, d4⟩ := hinv'
     refine ⟨?_, ?_, ?_⟩
     · intro hs
       exact ⟨_, by mt_norm [show Py.truthy (e' "self.csvpath.stopped") = true from hs]; rfl⟩
     · intro hs hk
       exact ⟨_, by
         mt_norm [show Py.truthy (e' "self.csvpath.stopped") = false from hs, show Py.isb (e' "self.skip") (.bool true) = true from hk]
         rfl⟩
     · intro hs hk
       -- the component runs: what it answers, and that `_AND` and the other reads survive it and the mark it gets
       have hv := hval "expr_matches" [Py.V.int idx, Py.V.strs []] e'
       have hcl := hC.clean "expr_matches" [Py.V.int idx, Py.V.strs []] e' d1
       have n1 : ¬ "self._AND" = ckey idx := fun hh => ckey_ne idx "self._AND" (by decide) hh.symm
       have hcl2 : ∀ b, Clean (Py.upd (ext "expr_matches" [Py.V.int idx, Py.V.strs []] e').2 (ckey idx) (Py.V.bool b)) := fun b =>
         clean_upd _ _ _ hcl rfl
       cases fb <;> cases dm <;>
         (mt_norm [show Py.truthy (e' "self.csvpath.stopped") = false from hs, show Py.isb (e' "self.skip") (.bool true) = false from hk,
            d4 idx (Nat.le_refl _), Py.is_bool hv, Py.isnot_bool hv, hcl2 _ _,
            Py.upd_other n1, hC.andMode, d2, fold]
          cases Py.isb (ext "expr_matches" [Py.V.int idx, Py.V.strs []] e').1 (Py.V.bool false) <;> exact ⟨_, _, by rfl, by rfl⟩)
   case hk =>
     intro idx locs fb e' effs' hinv' hl
     obtain ⟨d1, d2, d3, d4⟩ := hinv'
     have hcl' : Clean (ext "clear_errors" [] e').2 := hC.clean "clear_errors" [] e' d1
     refine ⟨?_, ?_⟩
     · intro hk
       exact ⟨_, by mt_norm [show Py.isb (e' "self.skip") (.bool true) = true from hk]; rfl⟩
     · intro hk
       cases hx : Py.truthy ((ext "clear_errors" [] e').2 "self.csvpath.explain") <;>
         exact ⟨_, by
           mt_norm [show Py.isb (e' "self.skip") (.bool true) = false from hk, Py.H.cond_clean (hcl' _), Py.not_clean (hcl' _), hx]
           rfl⟩
   · rfl
   · rfl))

end Proofs.BridgeMatches
