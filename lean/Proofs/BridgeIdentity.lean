import Proofs.PyNorm
import Model.PathsStore

/-! For the bridge of `CsvPath.identity` (`Props.IdentityTie`): the CsvPath object made of a list of metadata fields, and one link
    of the chain of lookups against one `match` of `Model.Paths.identityOf`. -/
namespace Proofs.BridgeIdentity
open Model.Paths

/-- the value of a metadata key as the translated code reads it: `KeyError` for an absent key -/
def look (fields : List (String × Option String)) (k : String) : Py.V :=
  match fields.find? (·.1 == k) with
  | Option.none => .exc "KeyError"
  | some (_, some v) => .str v
  | some (_, Option.none) => .none

/-- the environment of a CsvPath whose metadata are `fields` -/
def metaEnv (fields : List (String × Option String)) : Py.Env := fun k =>
  if k = "self.metadata" then .strs (fields.map (·.1))
  else if k = "self.metadata[id]" then look fields "id"
  else if k = "self.metadata[Id]" then look fields "Id"
  else if k = "self.metadata[ID]" then look fields "ID"
  else if k = "self.metadata[name]" then look fields "name"
  else if k = "self.metadata[Name]" then look fields "Name"
  else if k = "self.metadata[NAME]" then look fields "NAME"
  else .none

def toM (fields : List (String × Option String)) : List (Str × Option Str) := fields.map fun p => (p.1.toList, p.2.map String.toList)

def optV : Option Str → Py.V
  | some l => .str (String.ofList l)
  | Option.none => .none

def okV : Py.H.Res → Option Py.V
  | .ok v _ _ => some v
  | .raised _ _ _ => Option.none

theorem find_conv (fields : List (String × Option String)) (k : String) :
    ((toM fields).find? (·.1 == k.toList)).map (·.2) = ((fields.find? (·.1 == k)).map (·.2)).map (·.map String.toList) := by
  induction fields with
  | nil => rfl
  | cons x xs ih =>
    have hb : (x.1.toList == k.toList) = (x.1 == k) := by rw [Bool.eq_iff_iff]; simp [String.toList_inj]
    simp only [toM, List.map_cons, List.find?_cons, hb]
    cases x.1 == k
    · simpa [toM] using ih
    · simp

/-- one link of the chain, `if k in self.metadata: return self.metadata[k]`, against one `match` of `identityOf` -/
theorem link (F : List (String × Option String)) (k : String) (env : Py.Env) (effs : List Py.Eff) (rest : Py.H.Res)
    (m : Option Str) (h : okV rest = some (optV m)) :
    okV (Py.H.cond (Py.haskey (look F k)) env effs (Py.H.ret (look F k) env effs) rest) =
      some (optV (match ((toM F).find? (·.1 == k.toList)).map (·.2) with
        | some v => v
        | none => m)) := by
  rw [find_conv, look]
  generalize F.find? (·.1 == k) = o
  rcases o with _ | ⟨_, _ | v⟩
  · exact h
  · rfl
  · exact congrArg (fun s => some (Py.V.str s)) String.ofList_toList.symm

end Proofs.BridgeIdentity
