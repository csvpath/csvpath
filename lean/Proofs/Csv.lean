/-
  Lemmas for the csv model: what the reader's state machine does on each piece of what the writer
  emits (a cell body, a cell, a record, a file), and what text mode makes of the two line terminators.
  `read_of_universal` is the general theorem; the reads of the two writers' files are its instances.
-/
import Model.Csv

namespace Proofs.Csv
open Model.Csv

/-- a dialect the `csv` module accepts and that can be told from line ends -/
structure WFD (d : Dialect) : Prop where
  dq : d.delim ≠ d.quote
  dn : d.delim ≠ '\n'
  dr : d.delim ≠ '\r'
  qn : d.quote ≠ '\n'
  qr : d.quote ≠ '\r'

def run (d : Dialect) (a : Acc) (cs : List Char) : Acc := cs.foldl (feed d) a

@[simp] theorem run_nil (d : Dialect) (a : Acc) : run d a [] = a := rfl
@[simp] theorem run_cons (d : Dialect) (a : Acc) (c : Char) (cs : List Char) :
    run d a (c :: cs) = run d (feed d a c) cs := rfl
theorem run_append (d : Dialect) (a : Acc) (xs ys : List Char) :
    run d a (xs ++ ys) = run d (run d a xs) ys := List.foldl_append

def Plain (d : Dialect) (c : Char) : Prop := c ≠ d.delim ∧ c ≠ d.quote ∧ c ≠ '\n' ∧ c ≠ '\r'

/-- the states in which a delimiter or a line end completes the field: after the closing quote, in an
    unquoted field, and before the first character of an (empty) field -/
def FieldEnd (st : PState) : Prop := st = .quoteInQuoted ∨ st = .inField ∨ st = .startField

theorem wfd_comma_quote {limit : Nat} : WFD ⟨',', '"', limit⟩ := by constructor <;> simp

section
variable {d : Dialect}

theorem WFD.quote_isNL (hd : WFD d) : isNL d.quote = false := by simp [isNL, hd.qn, hd.qr]
theorem WFD.delim_isNL (hd : WFD d) : isNL d.delim = false := by simp [isNL, hd.dn, hd.dr]

theorem render_cons (r : Rec) (rest : List Rec) : render d (r :: rest) = encRecord d r ++ render d rest := rfl
theorem renderCRLF_cons (r : Rec) (rest : List Rec) :
    renderCRLF d (r :: rest) = encRecordCRLF d r ++ renderCRLF d rest := rfl

/-! Single steps of the reader, on the states and characters the writer's text leads it through.  Named for the
    state (`q` inQuoted, `qq` quoteInQuoted, `sf` startField, `sr` startRecord) and the character; the reader is
    `⟨⟨state, field, fields, bad⟩, out, pending⟩`, with `field`, `fields` and `out` reversed. -/
section step
variable {st : PState} {f : List Char} {fs : List Cell} {out : List Rec} {p : Bool}

theorem q_other {c : Char} (hq : c ≠ d.quote) (hl : f.length < d.limit) :
    feed d ⟨⟨.inQuoted, f, fs, false⟩, out, p⟩ c = ⟨⟨.inQuoted, c :: f, fs, false⟩, out, c != '\n'⟩ := by
  obtain rfl | hn := Decidable.em (c = '\n') <;> simp [feed, step, addChar, endLine, *]

theorem plain_step {c : Char} (hst : st = .inField ∨ st = .startField) (hc : Plain d c) (hl : f.length < d.limit) :
    feed d ⟨⟨st, f, fs, false⟩, out, p⟩ c = ⟨⟨.inField, c :: f, fs, false⟩, out, true⟩ := by
  obtain ⟨h1, h2, h3, h4⟩ := hc
  rcases hst with rfl | rfl <;> simp [feed, step, startFieldStep, addChar, isNL, h1, h2, h3, h4, hl]

/-- `parse_process_char`, START_RECORD: any character but a line end is handled as in START_FIELD -/
theorem sr_other {c : Char} (hc : isNL c = false) :
    feed d ⟨⟨.startRecord, [], [], false⟩, out, p⟩ c = feed d ⟨⟨.startField, [], [], false⟩, out, p⟩ c := by
  simp [feed, step, hc]

theorem sr_nl :
    feed d ⟨⟨.startRecord, [], [], false⟩, out, p⟩ '\n' = ⟨⟨.startRecord, [], [], false⟩, [] :: out, false⟩ := by
  simp [feed, step, endLine, isNL]

variable (hd : WFD d)
include hd

theorem q_quote :
    feed d ⟨⟨.inQuoted, f, fs, false⟩, out, p⟩ d.quote = ⟨⟨.quoteInQuoted, f, fs, false⟩, out, true⟩ := by
  simp [feed, step, hd.qn]

theorem qq_quote (hl : f.length < d.limit) :
    feed d ⟨⟨.quoteInQuoted, f, fs, false⟩, out, p⟩ d.quote = ⟨⟨.inQuoted, d.quote :: f, fs, false⟩, out, true⟩ := by
  simp [feed, step, addChar, hd.qn, hl]

theorem sf_quote :
    feed d ⟨⟨.startField, f, fs, false⟩, out, p⟩ d.quote = ⟨⟨.inQuoted, f, fs, false⟩, out, true⟩ := by
  simp [feed, step, startFieldStep, hd.quote_isNL, hd.qn]

theorem end_delim (hst : FieldEnd st) :
    feed d ⟨⟨st, f, fs, false⟩, out, p⟩ d.delim = ⟨⟨.startField, [], f.reverse :: fs, false⟩, out, true⟩ := by
  rcases hst with rfl | rfl | rfl <;> simp [feed, step, startFieldStep, saveField, hd.delim_isNL, hd.dn, hd.dq]

theorem end_nl (hst : FieldEnd st) :
    feed d ⟨⟨st, f, fs, false⟩, out, p⟩ '\n'
      = ⟨⟨.startRecord, [], [], false⟩, (f.reverse :: fs).reverse :: out, false⟩ := by
  rcases hst with rfl | rfl | rfl <;>
    simp [feed, step, startFieldStep, saveField, endLine, isNL, hd.dn.symm, hd.qn.symm]

end step

section reader
variable {fs : List Cell} {out : List Rec}

theorem plain_of_unquoted {c : Cell} (hq : ¬ needsQuote d c = true) (hr : '\r' ∉ c) : ∀ x ∈ c, Plain d x := by
  intro x hx
  have := List.any_eq_false.mp (Bool.not_eq_true _ ▸ hq) x hx
  simp only [Bool.or_eq_true, beq_iff_eq, not_or] at this
  exact ⟨this.1.1, this.1.2, this.2, fun h => hr (h ▸ hx)⟩

theorem run_plain (cs : Cell) (hp : ∀ c ∈ cs, Plain d c) : ∀ (st : PState) (f : List Char) (p : Bool),
    st = .inField ∨ st = .startField → f.length + cs.length ≤ d.limit →
    ∃ st' p', FieldEnd st' ∧ run d ⟨⟨st, f, fs, false⟩, out, p⟩ cs = ⟨⟨st', cs.reverse ++ f, fs, false⟩, out, p'⟩ := by
  induction cs with
  | nil => exact fun st f p hst _ => ⟨st, p, .inr hst, rfl⟩
  | cons c cs ih =>
    intro st f p hst hl
    obtain ⟨hc, hp⟩ := List.forall_mem_cons.mp hp
    simp only [List.length_cons] at hl
    obtain ⟨st', p', hst', h⟩ := ih hp .inField (c :: f) true (.inl rfl) (by simp; omega)
    refine ⟨st', p', hst', ?_⟩
    rw [run_cons, plain_step hst hc (by omega)]
    simpa using h

variable (hd : WFD d)
include hd

theorem run_escape (cs : Cell) : ∀ (f : List Char) (p : Bool), f.length + cs.length ≤ d.limit →
    ∃ p', run d ⟨⟨.inQuoted, f, fs, false⟩, out, p⟩ (escape d cs) = ⟨⟨.inQuoted, cs.reverse ++ f, fs, false⟩, out, p'⟩ := by
  induction cs with
  | nil => exact fun f p _ => ⟨p, rfl⟩
  | cons c cs ih =>
    intro f p hl
    simp only [List.length_cons] at hl
    rw [escape]
    split
    next hq =>
      obtain rfl : c = d.quote := by simpa using hq
      obtain ⟨p', h⟩ := ih (d.quote :: f) true (by simp; omega)
      exact ⟨p', by rw [run_cons, run_cons, q_quote hd, qq_quote hd (by omega), h]; simp⟩
    next hq =>
      obtain ⟨p', h⟩ := ih (c :: f) (c != '\n') (by simp; omega)
      exact ⟨p', by rw [run_cons, q_other (by simpa using hq) (by omega), h]; simp⟩

theorem run_encCell (c : Cell) (hr : '\r' ∉ c) (hl : c.length ≤ d.limit) (p : Bool) :
    ∃ st p', FieldEnd st ∧
      run d ⟨⟨.startField, [], fs, false⟩, out, p⟩ (encCell d c) = ⟨⟨st, c.reverse, fs, false⟩, out, p'⟩ := by
  unfold encCell
  split
  next =>
    obtain ⟨p', h⟩ := run_escape hd (fs := fs) (out := out) c [] true (by simpa using hl)
    refine ⟨.quoteInQuoted, true, .inl rfl, ?_⟩
    rw [run_cons, sf_quote hd, run_append, h, run_cons, q_quote hd, List.append_nil]
    rfl
  next hq =>
    simpa using run_plain c (plain_of_unquoted hq hr) .startField [] p (.inr rfl) (by simpa using hl)

theorem run_encCells (cs : List Cell) (hne : cs ≠ []) (h : ∀ c ∈ cs, '\r' ∉ c ∧ c.length ≤ d.limit) :
    ∀ (fs : List Cell) (p : Bool),
      run d ⟨⟨.startField, [], fs, false⟩, out, p⟩ (encCells d cs)
        = ⟨⟨.startRecord, [], [], false⟩, (fs.reverse ++ cs) :: out, false⟩ := by
  induction cs with
  | nil => exact absurd rfl hne
  | cons c rest ih =>
    intro fs p
    obtain ⟨hc, h⟩ := List.forall_mem_cons.mp h
    obtain ⟨st, p', hst, h1⟩ := run_encCell hd (fs := fs) (out := out) c hc.1 hc.2 p
    cases rest with
    | nil =>
      rw [encCells, run_append, h1, run_cons, end_nl hd hst]
      simp
    | cons c2 rest2 =>
      simp only [encCells]
      rw [run_append, h1, run_cons, end_delim hd hst, ih (by simp) h]
      simp

/-- what `sr_other` needs of a record's text.  It fails for `[""]` written unquoted: that is the
    blank line, read back as `[]`, which is why `writerow` quotes it -/
theorem encCells_head (cs : List Cell) (h0 : cs ≠ []) (h1 : cs ≠ [[]]) (hr : ∀ c ∈ cs, '\r' ∉ c) :
    ∃ x t, encCells d cs = x :: t ∧ isNL x = false := by
  have key : ∀ (c : Cell) (sep : Char) (t : List Char), '\r' ∉ c → (c = [] → isNL sep = false) →
      ∃ x t', encCell d c ++ sep :: t = x :: t' ∧ isNL x = false := by
    intro c sep t hr hs
    unfold encCell
    split
    next => exact ⟨_, _, rfl, hd.quote_isNL⟩
    next hq =>
      cases c with
      | nil => exact ⟨_, _, rfl, hs rfl⟩
      | cons x xs =>
        obtain ⟨-, -, hn, hr⟩ := plain_of_unquoted hq hr x (List.mem_cons_self ..)
        exact ⟨_, _, rfl, by simp [isNL, hn, hr]⟩
  match cs, h0, h1 with
  | [c], _, h1 => exact key c '\n' [] (hr c (List.mem_cons_self ..)) (fun e => absurd (e ▸ rfl) h1)
  | c :: c2 :: r, _, _ => exact key c d.delim _ (hr c (List.mem_cons_self ..)) (fun _ => hd.delim_isNL)

theorem run_encRecord (r : Rec) (h : ∀ c ∈ r, '\r' ∉ c ∧ c.length ≤ d.limit) (p : Bool) :
    run d ⟨⟨.startRecord, [], [], false⟩, out, p⟩ (encRecord d r) = ⟨⟨.startRecord, [], [], false⟩, r :: out, false⟩ := by
  unfold encRecord
  split
  next => exact sr_nl
  next =>
    rw [run_cons, sr_other hd.quote_isNL, sf_quote hd, run_cons, q_quote hd, run_cons, end_nl hd (.inl rfl)]
    rfl
  next h0 h1 =>
    obtain ⟨x, t, e, hx⟩ := encCells_head hd r h0 h1 (fun c hc => (h c hc).1)
    rw [e, run_cons, sr_other hx, ← run_cons, ← e, run_encCells hd r h0 h]
    rfl

theorem run_render (recs : List Rec) (h : ∀ r ∈ recs, ∀ c ∈ r, '\r' ∉ c ∧ c.length ≤ d.limit) :
    ∀ (out : List Rec), run d ⟨⟨.startRecord, [], [], false⟩, out, false⟩ (render d recs)
      = ⟨⟨.startRecord, [], [], false⟩, recs.reverse ++ out, false⟩ := by
  induction recs with
  | nil => exact fun out => rfl
  | cons r rest ih =>
    intro out
    obtain ⟨hr, h⟩ := List.forall_mem_cons.mp h
    rw [render_cons, run_append, run_encRecord hd r hr, ih h]
    simp

end reader

/-! text mode: `universal` leaves a text without carriage returns alone, and takes what the writer emits with its
    default line terminator to what it emits with `"\n"` -/
section textmode

theorem universal_cons {c : Char} {l : List Char} (hc : c ≠ '\r') : universal (c :: l) = c :: universal l := by
  simp [universal, hc]

theorem universal_append (xs ys : List Char) (h : '\r' ∉ xs) : universal (xs ++ ys) = xs ++ universal ys := by
  induction xs with
  | nil => rfl
  | cons c cs ih =>
    simp only [List.mem_cons, not_or] at h
    rw [List.cons_append, universal_cons (Ne.symm h.1), ih h.2, List.cons_append]

theorem universal_id (l : List Char) (h : '\r' ∉ l) : universal l = l := by
  simpa [universal] using universal_append l [] h

theorem universal_no_cr (l : List Char) : '\r' ∉ universal l := by
  fun_induction universal l <;> simp_all [@eq_comm _ '\r']

theorem mem_escape (x : Char) (c : Cell) : x ∈ escape d c ↔ x ∈ c := by
  induction c with
  | nil => simp [escape]
  | cons y ys ih => rw [escape]; split <;> simp [ih]

theorem encCellCRLF_eq (c : Cell) (hr : '\r' ∉ c) : encCellCRLF d c = encCell d c := by
  have : needsQuoteCRLF d c = needsQuote d c := by
    simp only [needsQuoteCRLF, needsQuote, List.any_eq, decide_eq_decide]
    exact exists_congr fun x => and_congr_right fun hx => by simp [show x ≠ '\r' from fun e => hr (e ▸ hx)]
  rw [encCellCRLF, this, encCell]

variable (hd : WFD d)
include hd

theorem encCell_no_cr (c : Cell) (hr : '\r' ∉ c) : '\r' ∉ encCell d c := by
  unfold encCell
  split <;> simp [mem_escape, hr, hd.qr.symm]

theorem universal_cellsCRLF (cs : List Cell) (h : ∀ c ∈ cs, '\r' ∉ c) (rest : List Char) :
    universal (encCellsCRLF d cs ++ rest) = encCells d cs ++ universal rest := by
  induction cs with
  | nil => simp [encCellsCRLF, encCells, universal]
  | cons c tl ih =>
    obtain ⟨hc, h⟩ := List.forall_mem_cons.mp h
    have := encCell_no_cr hd c hc
    cases tl with
    | nil => simp [encCellsCRLF, encCells, encCellCRLF_eq c hc, universal_append _ _ this, universal]
    | cons c2 t2 =>
      simp only [encCellsCRLF, encCells, encCellCRLF_eq c hc, List.append_assoc, List.cons_append]
      rw [universal_append _ _ this, universal_cons hd.dr, ih h]

theorem universal_recordCRLF (r : Rec) (h : ∀ c ∈ r, '\r' ∉ c) (rest : List Char) :
    universal (encRecordCRLF d r ++ rest) = encRecord d r ++ universal rest := by
  unfold encRecordCRLF
  split
  next => simp [encRecord, universal]
  next => simp [encRecord, universal_cons hd.qr, universal]
  next h0 h1 =>
    -- neither `[]` nor `[[]]`: both writers go on to the cells
    rw [encRecord, universal_cellsCRLF hd r h rest] <;> assumption

theorem universal_renderCRLF_append (recs : List Rec) (h : ∀ r ∈ recs, ∀ c ∈ r, '\r' ∉ c) (rest : List Char) :
    universal (renderCRLF d recs ++ rest) = render d recs ++ universal rest := by
  induction recs with
  | nil => rfl
  | cons r recs ih =>
    obtain ⟨hr, h⟩ := List.forall_mem_cons.mp h
    rw [renderCRLF_cons, List.append_assoc, universal_recordCRLF hd r hr, ih h, render_cons, List.append_assoc]

theorem universal_renderCRLF (recs : List Rec) (h : ∀ r ∈ recs, ∀ c ∈ r, '\r' ∉ c) :
    universal (renderCRLF d recs) = render d recs := by
  simpa [universal] using universal_renderCRLF_append hd recs h []

/-- being an image of `universal` it holds no carriage return, so text mode leaves it alone -/
theorem universal_render (recs : List Rec) (h : ∀ r ∈ recs, ∀ c ∈ r, '\r' ∉ c) :
    universal (render d recs) = render d recs := by
  rw [← universal_renderCRLF hd recs h]
  exact universal_id _ (universal_no_cr _)

theorem read_of_universal {text : List Char} (recs : List Rec)
    (h : ∀ r ∈ recs, ∀ c ∈ r, '\r' ∉ c ∧ c.length ≤ d.limit) (e : universal text = render d recs) :
    Model.Csv.read d text = some recs := by
  have := run_render hd recs h []
  rw [run] at this
  simp [Model.Csv.read, e, this, finish]

end textmode
end

theorem read_render {d : Dialect} (hd : WFD d) (recs : List Rec)
    (h : ∀ r ∈ recs, ∀ c ∈ r, '\r' ∉ c ∧ c.length ≤ d.limit) :
    Model.Csv.read d (render d recs) = some recs :=
  read_of_universal hd recs h (universal_render hd recs fun r hr c hc => (h r hr c hc).1)

theorem read_renderCRLF {d : Dialect} (hd : WFD d) (recs : List Rec)
    (h : ∀ r ∈ recs, ∀ c ∈ r, '\r' ∉ c ∧ c.length ≤ d.limit) :
    Model.Csv.read d (renderCRLF d recs) = some recs :=
  read_of_universal hd recs h (universal_renderCRLF hd recs fun r hr c hc => (h r hr c hc).1)

theorem read_recordCRLF {d : Dialect} (hd : WFD d) (r : Rec) (h : ∀ c ∈ r, '\r' ∉ c ∧ c.length ≤ d.limit) :
    Model.Csv.read d (encRecordCRLF d r) = some [r] := by
  simpa [renderCRLF] using read_renderCRLF hd [r] (by simpa using h)

end Proofs.Csv
