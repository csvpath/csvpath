import Model.RunLoop
import Spec.Scan

/-! The run loop (`Model.Run`), for every matcher.  One record of the loop is `trackLine`, `considerLine`, `accStep`;
    `runFrom_invariant` turns what one record and `finalize` preserve into a fact about the whole run, however it ends.  The ledger
    of offered/matched/declined positions (`Inv`), the yields, the consumer's lists (`AccInv`) and the counters are its instances
    (a fifth, that validity never returns, is `runFrom_validMono` in Proofs/Matcher.lean); what is offered (`runFrom_offered` looks
    ahead at the records not yet read) and the statements that compare two runs have their own inductions. -/
namespace Proofs.Run
open Model.Scan Model.Run

variable {σ : Type}

@[simp] theorem callMatcher_offered (m : MatcherSem σ) (e : Option Nat) (i : Nat) (bl : Bool) (r : Rec)
    (st : LoopSt σ) : (callMatcher m e i bl r st).2.offered = st.offered := rfl
@[simp] theorem callMatcher_matched (m : MatcherSem σ) (e : Option Nat) (i : Nat) (bl : Bool) (r : Rec)
    (st : LoopSt σ) : (callMatcher m e i bl r st).2.matched = st.matched := rfl
@[simp] theorem callMatcher_declined (m : MatcherSem σ) (e : Option Nat) (i : Nat) (bl : Bool) (r : Rec)
    (st : LoopSt σ) : (callMatcher m e i bl r st).2.declined = st.declined := rfl
@[simp] theorem callMatcher_scanCount (m : MatcherSem σ) (e : Option Nat) (i : Nat) (bl : Bool) (r : Rec)
    (st : LoopSt σ) : (callMatcher m e i bl r st).2.scanCount = st.scanCount := rfl

@[simp] theorem track_offered (i : Nat) (r : Rec) (st : LoopSt σ) : (trackLine i r st).offered = st.offered := rfl
@[simp] theorem track_matched (i : Nat) (r : Rec) (st : LoopSt σ) : (trackLine i r st).matched = st.matched := rfl
@[simp] theorem track_declined (i : Nat) (r : Rec) (st : LoopSt σ) : (trackLine i r st).declined = st.declined := rfl
@[simp] theorem track_scanCount (i : Nat) (r : Rec) (st : LoopSt σ) : (trackLine i r st).scanCount = st.scanCount := rfl
@[simp] theorem track_fl (i : Nat) (r : Rec) (st : LoopSt σ) : (trackLine i r st).fl = st.fl := rfl
@[simp] theorem track_ms (i : Nat) (r : Rec) (st : LoopSt σ) : (trackLine i r st).ms = st.ms := rfl

@[simp] theorem offer_offered (i : Nat) (st : LoopSt σ) : (offer i st).offered = st.offered ++ [i] := rfl
@[simp] theorem offer_matched (i : Nat) (st : LoopSt σ) : (offer i st).matched = st.matched := rfl
@[simp] theorem offer_declined (i : Nat) (st : LoopSt σ) : (offer i st).declined = st.declined := rfl
@[simp] theorem offer_scanCount (i : Nat) (st : LoopSt σ) : (offer i st).scanCount = st.scanCount + 1 := rfl

@[simp] theorem freeze_offered (st : LoopSt σ) : (freeze st).offered = st.offered := rfl
@[simp] theorem freeze_matched (st : LoopSt σ) : (freeze st).matched = st.matched := rfl
@[simp] theorem freeze_declined (st : LoopSt σ) : (freeze st).declined = st.declined := rfl
@[simp] theorem freeze_scanCount (st : LoopSt σ) : (freeze st).scanCount = st.scanCount := rfl

/-! The steps written with `if` are given as one record update each, so that any field of their result reduces by itself. -/

theorem markStop_eq (scan : St) (e : Option Nat) (i : Nat) (st : LoopSt σ) :
    markStop scan e i st = { st with fl := { st.fl with stopped := isLast scan e i || st.fl.stopped } } := by
  unfold markStop; split <;> simp [*]

theorem conclude_eq (i : Nat) (b : Bool) (st : LoopSt σ) :
    conclude i b st = (some b, { st with
      fl := { st.fl with matchCount :=
        if b && st.curMatchCount == st.fl.matchCount then st.fl.matchCount + 1 else st.fl.matchCount },
      matched := st.matched ++ (if b then [i] else []),
      declined := st.declined ++ (if b then [] else [i]) }) := by
  unfold conclude raiseMatchCountIf
  cases b <;> cases st.curMatchCount == st.fl.matchCount <;> simp

theorem accStep_eq (ku : Bool) (i : Nat) (r : Rec) (b : Bool) (acc : Acc) :
    accStep ku i r b acc =
      { unmatched := acc.unmatched ++ (if !b && ku then [r] else []),
        unmatchedIdx := acc.unmatchedIdx ++ (if !b && ku then [i] else []),
        yielded := acc.yielded ++ (if b then [i] else []), seen := acc.seen + 1 } := by
  cases b <;> cases ku <;> simp [accStep]

section forward
variable {m : MatcherSem σ} {scan : St} {endIdx : Option Nat} {i : Nat} {r : Rec} {st : LoopSt σ}

/-! The four ways one `_consider_line` goes, each from exactly the condition `considerCore` tests for it, with its outcome (`none`:
    not offered) and the state it leaves written out: the blank last line (the matcher runs frozen, for the `last()`s); another
    blank record, or one outside the scan; a scanned record passed over by `advance`; a scanned record handed to the matcher. -/

theorem considerCore_blankLast (h : (endIdx == some i && r.isEmpty) = true) :
    considerCore m scan endIdx i r st = (none, (callMatcher m endIdx i true r (freeze st)).2) := by
  unfold considerCore; exact if_pos h

theorem considerCore_pass (h1 : (endIdx == some i && r.isEmpty) = false) (h2 : (!r.isEmpty && includes scan i) = false) :
    considerCore m scan endIdx i r st = (none, st) := by
  unfold considerCore
  rw [if_neg (by simp [h1])]
  cases hr : r.isEmpty
  · -- a record with data: `h2` says it is outside the scan
    rw [if_neg (by simp), if_neg (by simpa [hr] using h2)]
  · rw [if_pos rfl]

theorem considerCore_advance (hr : r.isEmpty = false) (hi : includes scan i = true) (ha : st.fl.advance > 0) :
    considerCore m scan endIdx i r st = (some false, { offer i st with
      fl := { st.fl with advance := st.fl.advance - 1, stopped := isLast scan endIdx i || st.fl.stopped },
      declined := st.declined ++ [i] }) := by
  unfold considerCore
  simp [hr, hi, advanceOrMatch, ha, conclude_eq, markStop_eq, decAdvance, offer]

theorem considerCore_match {b : Bool} {ms' : σ} {fl' : Flags} (hr : r.isEmpty = false) (hi : includes scan i = true)
    (ha : st.fl.advance = 0) (he : m.eval (mkCtx i endIdx false (offer i st)) r st.ms st.fl = (b, ms', fl')) :
    considerCore m scan endIdx i r st = (some b, { offer i st with
      ms := ms',
      fl := { fl' with stopped := isLast scan endIdx i || fl'.stopped,
                       matchCount := if b && st.fl.matchCount == fl'.matchCount then fl'.matchCount + 1
                                     else fl'.matchCount },
      matched := st.matched ++ (if b then [i] else []),
      declined := st.declined ++ (if b then [] else [i]) }) := by
  unfold considerCore
  have he' : m.eval (mkCtx i endIdx false (offer i st)) r (offer i st).ms (offer i st).fl = (b, ms', fl') := he
  simp only [hr, hi, Bool.and_false, Bool.false_eq_true, if_false, if_true, advanceOrMatch,
    show ¬ (offer i st).fl.advance > 0 from by simp [offer, ha], conclude_eq, markStop_eq, callMatcher, he']
  simp [offer]

end forward

/-- One of the four happens.  Given `hc : considerCore … = (o, st')`, `cases e.symm.trans hc` on a case's equation `e` puts its outcome
    and state in place of `o` and `st'`. -/
theorem considerCore_cases (m : MatcherSem σ) (scan : St) (endIdx : Option Nat) (i : Nat) (r : Rec) (st : LoopSt σ) :
    ((endIdx == some i && r.isEmpty) = true ∧
      considerCore m scan endIdx i r st = (none, (callMatcher m endIdx i true r (freeze st)).2)) ∨
    (((endIdx == some i && r.isEmpty) = false ∧ (!r.isEmpty && includes scan i) = false) ∧
      considerCore m scan endIdx i r st = (none, st)) ∨
    (r.isEmpty = false ∧ includes scan i = true ∧ st.fl.advance > 0 ∧
      considerCore m scan endIdx i r st = (some false, { offer i st with
        fl := { st.fl with advance := st.fl.advance - 1, stopped := isLast scan endIdx i || st.fl.stopped },
        declined := st.declined ++ [i] })) ∨
    (∃ b ms' fl', r.isEmpty = false ∧ includes scan i = true ∧ st.fl.advance = 0 ∧
      m.eval (mkCtx i endIdx false (offer i st)) r st.ms st.fl = (b, ms', fl') ∧
      considerCore m scan endIdx i r st = (some b, { offer i st with
        ms := ms',
        fl := { fl' with stopped := isLast scan endIdx i || fl'.stopped,
                         matchCount := if b && st.fl.matchCount == fl'.matchCount then fl'.matchCount + 1
                                       else fl'.matchCount },
        matched := st.matched ++ (if b then [i] else []),
        declined := st.declined ++ (if b then [] else [i]) })) := by
  cases h1 : (endIdx == some i && r.isEmpty)
  case true => exact .inl ⟨rfl, considerCore_blankLast h1⟩
  cases h2 : (!r.isEmpty && includes scan i)
  case false => exact .inr (.inl ⟨⟨rfl, rfl⟩, considerCore_pass h1 h2⟩)
  obtain ⟨hr, hi⟩ : r.isEmpty = false ∧ includes scan i = true := by simpa using h2
  by_cases ha : st.fl.advance > 0
  · exact .inr (.inr (.inl ⟨hr, hi, ha, considerCore_advance hr hi ha⟩))
  · obtain ⟨b, ms', fl', he⟩ : ∃ b ms' fl', m.eval (mkCtx i endIdx false (offer i st)) r st.ms st.fl = (b, ms', fl') := ⟨_, _, _, rfl⟩
    have ha := Nat.eq_zero_of_not_pos ha
    exact .inr (.inr (.inr ⟨b, ms', fl', hr, hi, ha, he, considerCore_match hr hi ha he⟩))

section considerCore
variable {m : MatcherSem σ} {scan : St} {endIdx : Option Nat} {i : Nat} {r : Rec} {st st' : LoopSt σ} {o : Option Bool}

theorem considerCore_ledger (hc : considerCore m scan endIdx i r st = (o, st')) :
    st'.offered = st.offered ++ (if o.isSome then [i] else []) ∧
    st'.matched = st.matched ++ (if o == some true then [i] else []) ∧
    st'.declined = st.declined ++ (if o == some false then [i] else []) ∧
    st'.scanCount = st.scanCount + (if o.isSome then 1 else 0) := by
  rcases considerCore_cases m scan endIdx i r st with ⟨_, e⟩ | ⟨_, e⟩ | ⟨_, _, _, e⟩ | ⟨b, _, _, _, _, _, _, e⟩ <;>
    cases e.symm.trans hc
  · simp
  · simp
  · simp
  · cases b <;> simp

theorem considerCore_isSome (hc : considerCore m scan endIdx i r st = (o, st')) :
    o.isSome = (!r.isEmpty && includes scan i) := by
  rcases considerCore_cases m scan endIdx i r st with ⟨_, e⟩ | ⟨_, e⟩ | ⟨_, _, _, e⟩ | ⟨b, _, _, _, _, _, _, e⟩ <;>
    cases e.symm.trans hc <;> simp_all

end considerCore

/-- the ghost list the yields follow: `matched` in the default return-mode, `declined` with
    `return-mode: no-matches` -/
def sel (cwnm : Bool) (st : LoopSt σ) : List Nat := if cwnm then st.declined else st.matched

theorem sel_step (m : MatcherSem σ) (scan : St) (cwnm : Bool) (endIdx : Option Nat) (i : Nat) (r : Rec)
    (st : LoopSt σ) :
    sel cwnm (considerLine m scan cwnm endIdx i r st).2 =
      sel cwnm st ++ (if (considerLine m scan cwnm endIdx i r st).1 then [i] else []) := by
  rcases hc : considerCore m scan endIdx i r st with ⟨o, st'⟩
  obtain ⟨_, g2, g3, _⟩ := considerCore_ledger hc
  simp only [considerLine, sel, hc, g2, g3]
  rcases o with _ | _ | _ <;> cases cwnm <;> simp [decide?]

/-! ### contracts on the matcher, and one `_consider_line` under each (a third, `ValidMono`, is in Proofs/Matcher.lean) -/

/-- contract of a matcher that raises the match count only for a line it then reports as matching (the look-ahead of `onmatch`
    components is allowed to raise it early), and not on the blank last line, whose answer the loop drops: it appends nothing to
    `matched` there -/
def CountsOK (m : MatcherSem σ) : Prop :=
  ∀ ctx r s fl,
    (m.eval ctx r s fl).2.2.matchCount = fl.matchCount ∨
    ((m.eval ctx r s fl).1 = true ∧ ctx.blankLast = false ∧
      (m.eval ctx r s fl).2.2.matchCount = fl.matchCount + 1)

theorem considerCore_matchCount {m : MatcherSem σ} (hm : CountsOK m) {scan : St} {endIdx : Option Nat}
    {i : Nat} {r : Rec} {st st' : LoopSt σ} {o : Option Bool} (hc : considerCore m scan endIdx i r st = (o, st'))
    (h : st.fl.matchCount = st.matched.length) : st'.fl.matchCount = st'.matched.length := by
  rcases considerCore_cases m scan endIdx i r st with ⟨_, e⟩ | ⟨_, e⟩ | ⟨_, _, _, e⟩ | ⟨b, ms', fl', _, _, _, he, e⟩ <;>
    cases e.symm.trans hc
  · rcases hm (mkCtx i endIdx true (freeze st)) r (freeze st).ms (freeze st).fl with e | ⟨_, hb, _⟩
    · exact e.trans h
    · cases hb
  · exact h
  · exact h
  · -- `_current_match_count` is the count before the line: `raise_match_count_if` raises the count unless the matcher did
    have := hm (mkCtx i endIdx false (offer i st)) r st.ms st.fl
    rw [he] at this
    rcases this with e | ⟨hb, _, e⟩ <;> cases b <;> simp_all

/-- a matcher that never stops the run and never asks to advance -/
def Quiet (m : MatcherSem σ) : Prop :=
  ∀ ctx r s fl, (m.eval ctx r s fl).2.2.stopped = fl.stopped ∧ (m.eval ctx r s fl).2.2.advance = fl.advance

/-- while the matcher leaves the stop flag alone, only the scanner's last line sets it (`advance` plays no part: a record
    passed over is scanned all the same) -/
theorem considerCore_stopped {m : MatcherSem σ} (hq : ∀ ctx r s fl, (m.eval ctx r s fl).2.2.stopped = fl.stopped)
    {scan : St} {endIdx : Option Nat} {i : Nat} {r : Rec} {st st' : LoopSt σ} {o : Option Bool}
    (hc : considerCore m scan endIdx i r st = (o, st')) (hs : st.fl.stopped = false) :
    st'.fl.stopped = (o.isSome && isLast scan endIdx i) := by
  rcases considerCore_cases m scan endIdx i r st with ⟨_, e⟩ | ⟨_, e⟩ | ⟨_, _, _, e⟩ | ⟨b, ms', fl', _, _, _, he, e⟩ <;>
    cases e.symm.trans hc
  · exact (hq (mkCtx i endIdx true (freeze st)) r (freeze st).ms (freeze st).fl).trans hs
  · exact hs
  · simp [hs]
  · have := hq (mkCtx i endIdx false (offer i st)) r st.ms st.fl
    rw [he] at this
    simp_all

/-- strictly increasing positions, all before line `i`: the shape of every index list the loop and its consumer keep -/
def Below (i : Nat) (l : List Nat) : Prop := l.Pairwise (· < ·) ∧ ∀ j ∈ l, j < i

theorem Below.nil (i : Nat) : Below i [] := ⟨.nil, by simp⟩

theorem Below.mono {i i' : Nat} {l : List Nat} (h : Below i l) (hi : i ≤ i') : Below i' l :=
  ⟨h.1, fun j hj => Nat.lt_of_lt_of_le (h.2 j hj) hi⟩

theorem Below.not_mem {i : Nat} {l : List Nat} (h : Below i l) : i ∉ l :=
  fun hc => Nat.lt_irrefl _ (h.2 i hc)

theorem Below.push {i : Nat} {l : List Nat} (h : Below i l) (c : Bool) : Below (i + 1) (l ++ if c then [i] else []) := by
  cases c
  · simpa using h.mono (Nat.le_succ i)
  · refine ⟨List.pairwise_append.mpr ⟨h.1, by simp, fun a ha b hb => ?_⟩, fun j hj => ?_⟩
    · simp at hb; subst hb; exact h.2 a ha
    · simp at hj; rcases hj with hj | rfl
      · exact Nat.lt_succ_of_lt (h.2 j hj)
      · exact Nat.lt_succ_self _

/-! ### the ledger of the loop state (C01, C03, C15) -/

/-- the ledger before line `i`, the next to be read.  It holds because `considerCore` appends `i` to `offered` and to exactly one
    of `matched`, `declined` (`considerCore_ledger`), and nothing else writes these fields. -/
structure Inv (i : Nat) (st : LoopSt σ) : Prop where
  scan : st.scanCount = st.offered.length
  off : Below i st.offered
  msub : st.matched.Sublist st.offered
  dsub : st.declined.Sublist st.offered
  part : ∀ j ∈ st.offered, (j ∈ st.matched ↔ j ∉ st.declined)

theorem Inv.mono {i i' : Nat} {st : LoopSt σ} (h : Inv i st) (hi : i ≤ i') : Inv i' st :=
  { h with off := h.off.mono hi }

theorem Inv_init (ms : σ) : Inv 0 ({ ms := ms } : LoopSt σ) :=
  ⟨rfl, .nil 0, by simp, by simp, by simp⟩

theorem Inv_finalize {i : Nat} {st : LoopSt σ} (h : Inv i st) : Inv i (finalize st) :=
  ⟨h.scan, h.off, h.msub, h.dsub, h.part⟩

theorem Inv_track {i k : Nat} {r : Rec} {st : LoopSt σ} (h : Inv i st) : Inv i (trackLine k r st) :=
  ⟨h.scan, h.off, h.msub, h.dsub, h.part⟩

theorem Inv_considerCore {m : MatcherSem σ} {scan : St} {endIdx : Option Nat} {i : Nat} {r : Rec}
    {st : LoopSt σ} (h : Inv i st) : Inv (i + 1) (considerCore m scan endIdx i r st).2 := by
  rcases hc : considerCore m scan endIdx i r st with ⟨o, st'⟩
  obtain ⟨g1, g2, g3, g4⟩ := considerCore_ledger hc
  have hi := h.off.not_mem
  have him : i ∉ st.matched := fun hc => hi (h.msub.subset hc)
  have hid : i ∉ st.declined := fun hc => hi (h.dsub.subset hc)
  refine ⟨?_, g1 ▸ h.off.push _, ?_, ?_, ?_⟩ <;> simp only [g1, g2, g3, g4]
  · rw [h.scan]; split <;> simp
  · exact h.msub.append (by rcases o with _ | _ | _ <;> simp)
  · exact h.dsub.append (by rcases o with _ | _ | _ <;> simp)
  · intro j hj
    rcases List.mem_append.mp hj with hj | hj
    · have hne : j ≠ i := fun e => hi (e ▸ hj)
      simpa [hne] using h.part j hj
    · -- `j = i`, which is in neither list so far (`him`, `hid`) and enters exactly the one `o` names
      rcases o with _ | _ | _ <;> simp_all

/-! ### the consumer's accumulator (C06, C15) -/

/-- the consumer side of a run that started at line 0 of `recs` with nothing accumulated, before line `i`, `out` being the lines
    handed out so far: both index lists ascend below `i`, the lines and the unmatched lines are the records at those positions,
    and with `unmatched-mode: keep` under `collect()` (`ku`) the two lists partition the positions read -/
structure AccInv (ku : Bool) (recs : List Rec) (i : Nat) (out : List Rec) (acc : Acc) : Prop where
  seen : acc.seen = i
  ys : Below i acc.yielded
  us : Below i acc.unmatchedIdx
  part : ku = true → ∀ j, j < i → (j ∈ acc.yielded ↔ j ∉ acc.unmatchedIdx)
  lines : out = acc.yielded.map (fun j => recs.getD j [])
  unm : acc.unmatched = acc.unmatchedIdx.map (fun j => recs.getD j [])

theorem AccInv_init (ku : Bool) (recs : List Rec) : AccInv ku recs 0 [] {} :=
  ⟨rfl, .nil 0, .nil 0, fun _ j hj => by omega, rfl, rfl⟩

theorem AccInv.step {ku : Bool} {recs : List Rec} {i : Nat} {out : List Rec} {acc : Acc} {r : Rec}
    (h : AccInv ku recs i out acc) (hr : recs[i]? = some r) (b : Bool) :
    AccInv ku recs (i + 1) (if b then out ++ [r] else out) (accStep ku i r b acc) := by
  rw [accStep_eq]
  refine ⟨by simp [h.seen], h.ys.push b, h.us.push _, fun hk j hj => ?_, ?_, ?_⟩
  · subst hk
    by_cases hji : j = i
    · subst hji; have := h.ys.not_mem; have := h.us.not_mem; cases b <;> simp [*]
    · have := h.part rfl j (by omega); cases b <;> simp [hji, this]
  · cases b <;> simp [h.lines, hr]
  · cases b <;> cases ku <;> simp [h.unm, hr]

/-! ### the loop

The arguments of `runFrom m scan cwnm ku endIdx budget i recs st acc` are implicit in these statements, read off the goal (`exact
runFrom_yielded rfl`); `runFrom_invariant` and `runFrom_AccInv`, whose conclusions begin with `∃`, take them explicitly. -/

/-- Invariant rule.  `P i out st acc` speaks of the moment before record `i`: `out` the lines handed out so far, `st` the loop
    state, `acc` the consumer's accumulator.  If one record (line monitor, `_consider_line`, consumer; `recs[i - i₀]? = some r`
    says which record it is) and `finalize` preserve `P`, then `P` holds when the run is over, whichever way it ends: the file is
    exhausted, the stop flag is set, or the budget of yields is spent.  `n` is the number of the first record not read.  Each instance
    forgets `n`, so facts wanted of the same `n` go through the rule together, as one conjunction (`runFrom_yielded` shows a call). -/
theorem runFrom_invariant (m : MatcherSem σ) (scan : St) (cwnm ku : Bool) (endIdx : Option Nat)
    {P : Nat → List Rec → LoopSt σ → Acc → Prop}
    (hfin : ∀ {i out st acc}, P i out st acc → P i out (finalize st) acc) :
    ∀ (recs : List Rec) (i₀ : Nat),
      (∀ i r out st acc, i₀ ≤ i → recs[i - i₀]? = some r → P i out st acc →
        P (i + 1) (if (considerLine m scan cwnm endIdx i r (trackLine i r st)).1 then out ++ [r] else out)
          (considerLine m scan cwnm endIdx i r (trackLine i r st)).2
          (accStep ku i r (considerLine m scan cwnm endIdx i r (trackLine i r st)).1 acc)) →
      ∀ (budget : Option Nat) (out : List Rec) (st : LoopSt σ) (acc : Acc), P i₀ out st acc →
      ∃ n, i₀ ≤ n ∧ n ≤ i₀ + recs.length ∧
        P n (out ++ (runFrom m scan cwnm ku endIdx budget i₀ recs st acc).1)
          (runFrom m scan cwnm ku endIdx budget i₀ recs st acc).2.1
          (runFrom m scan cwnm ku endIdx budget i₀ recs st acc).2.2 := by
  intro recs
  induction recs with
  | nil =>
    intro i₀ _ budget out st acc h
    exact ⟨i₀, Nat.le_refl _, Nat.le_refl _, by simpa [runFrom] using hfin h⟩
  | cons r rs ih =>
    intro i₀ hstep budget out st acc h
    have h1 := hstep i₀ r out st acc (Nat.le_refl _) (by simp) h
    have hrec := fun b => ih (i₀ + 1)
      (fun i r' out st acc hi hr => hstep i r' out st acc (by omega)
        (by rw [show i - i₀ = i - (i₀ + 1) + 1 by omega]; exact hr)) b _ _ _ h1
    have hlen : i₀ + 1 ≤ i₀ + (r :: rs).length := by simp
    simp only [runFrom]
    generalize considerLine m scan cwnm endIdx i₀ r (trackLine i₀ r st) = c at h1 hrec
    obtain ⟨b, st1⟩ := c
    -- the run ends with this record, or goes on with the rest of the file (`hrec`)
    cases b <;> simp only [Bool.false_eq_true, if_false, if_true] at h1 hrec ⊢
    · by_cases hs : st1.fl.stopped = true <;> simp only [hs, if_true]
      · exact ⟨i₀ + 1, by omega, hlen, by simpa using hfin h1⟩
      · obtain ⟨n, h2, h3, h4⟩ := hrec budget
        exact ⟨n, by omega, by simp; omega, h4⟩
    · by_cases hb : (budget == some 1 || budget == some 0) = true <;> simp only [hb, if_true]
      · exact ⟨i₀ + 1, by omega, hlen, h1⟩
      · by_cases hs : st1.fl.stopped = true <;> simp only [hs, if_true]
        · exact ⟨i₀ + 1, by omega, hlen, hfin h1⟩
        · obtain ⟨n, h2, h3, h4⟩ := hrec (budget.map (· - 1))
          exact ⟨n, by omega, by simp; omega, by simpa using h4⟩

/-- `AccInv` speaks of positions in the whole file, so the run starts at line 0 with nothing accumulated; `n` is where it ends -/
theorem runFrom_AccInv (m : MatcherSem σ) (scan : St) (cwnm ku : Bool) (endIdx : Option Nat) (budget : Option Nat)
    (recs : List Rec) (st : LoopSt σ) :
    ∃ n, n ≤ recs.length ∧ AccInv ku recs n (runFrom m scan cwnm ku endIdx budget 0 recs st {}).1
      (runFrom m scan cwnm ku endIdx budget 0 recs st {}).2.2 := by
  obtain ⟨n, _, hn, h'⟩ := runFrom_invariant m scan cwnm ku endIdx (P := fun i out _ acc => AccInv ku recs i out acc)
    id recs 0 (fun i r _ _ _ _ hr h => h.step hr _) budget [] st {} (AccInv_init ku recs)
  exact ⟨n, by omega, by simpa using h'⟩

section runFrom
variable {m : MatcherSem σ} {scan : St} {cwnm ku : Bool} {endIdx : Option Nat} {budget : Option Nat} {i : Nat}
  {recs : List Rec} {st : LoopSt σ} {acc : Acc}

theorem runFrom_none_cons {r : Rec} {rs : List Rec} :
    runFrom m scan cwnm ku endIdx none i (r :: rs) st acc =
      let c := considerLine m scan cwnm endIdx i r (trackLine i r st)
      let acc1 := accStep ku i r c.1 acc
      if c.2.fl.stopped then (if c.1 then [r] else [], finalize c.2, acc1)
      else
        let rest := runFrom m scan cwnm ku endIdx none (i + 1) rs c.2 acc1
        ((if c.1 then [r] else []) ++ rest.1, rest.2) := by
  simp only [runFrom]
  generalize considerLine m scan cwnm endIdx i r (trackLine i r st) = c
  obtain ⟨b, st1⟩ := c
  cases b <;> cases st1.fl.stopped <;> rfl

theorem runFrom_Inv (h : Inv i st) : Inv (i + recs.length) (runFrom m scan cwnm ku endIdx budget i recs st acc).2.1 := by
  obtain ⟨n, _, hn, h'⟩ := runFrom_invariant m scan cwnm ku endIdx (P := fun i _ st _ => Inv i st)
    Inv_finalize recs i (fun _ _ _ _ _ _ _ h => Inv_considerCore (Inv_track h)) budget [] st acc h
  exact h'.mono hn

/-- the positions yielded are the ghost list `sel` names, provided they are when the run begins (`h`; `rfl` from line 0) -/
theorem runFrom_yielded (h : acc.yielded = sel cwnm st) :
    (runFrom m scan cwnm ku endIdx budget i recs st acc).2.2.yielded =
      sel cwnm (runFrom m scan cwnm ku endIdx budget i recs st acc).2.1 := by
  obtain ⟨_, _, _, h'⟩ := runFrom_invariant m scan cwnm ku endIdx (P := fun _ _ st acc => acc.yielded = sel cwnm st)
    id recs i (fun i r _ st acc _ _ h => by rw [accStep_eq, sel_step, h]; rfl) budget [] st acc h
  exact h'

theorem runFrom_lines_yielded :
    (runFrom m scan cwnm ku endIdx budget 0 recs st {}).1 =
      (runFrom m scan cwnm ku endIdx budget 0 recs st {}).2.2.yielded.map (fun j => recs.getD j []) :=
  let ⟨_, _, h⟩ := runFrom_AccInv m scan cwnm ku endIdx budget recs st
  h.lines

theorem runFrom_matchCount (hm : CountsOK m) (h : st.fl.matchCount = st.matched.length) :
    (runFrom m scan cwnm ku endIdx budget i recs st acc).2.1.fl.matchCount =
      (runFrom m scan cwnm ku endIdx budget i recs st acc).2.1.matched.length := by
  obtain ⟨_, _, _, h'⟩ := runFrom_invariant m scan cwnm ku endIdx
    (P := fun _ _ st _ => st.fl.matchCount = st.matched.length) id recs i
    (fun _ _ _ _ _ _ _ h => considerCore_matchCount hm rfl h) budget [] st acc h
  exact h'

/-! ### what is offered (C02 run-level clause) -/

theorem offeredFrom_nil {den : Nat → Bool} (h : ∀ j, i ≤ j → j < i + recs.length → den j = false) :
    Spec.Scan.offeredFrom den i recs = [] := by
  induction recs generalizing i with
  | nil => rfl
  | cons r rs ih =>
    have h0 : den i = false := h i (Nat.le_refl _) (by simp)
    simp only [Spec.Scan.offeredFrom, h0, Bool.false_and, Bool.false_eq_true, if_false, List.nil_append]
    exact ih fun j h1 h2 => h j (by omega) (by simp; omega)

/-- with a matcher that does not touch the stop flag, the loop offers exactly the denoted
    non-blank records; `hlast` is the scanner fact that its own stop comes after the last
    denoted record of the file, whose length is `N` (the induction walks a suffix `recs` of it, from line `i`) -/
theorem runFrom_offered (hq : ∀ ctx r s fl, (m.eval ctx r s fl).2.2.stopped = fl.stopped)
    {den : Nat → Bool} (hinc : ∀ n, includes scan n = den n) {N : Nat}
    (hlast : ∀ n, isLast scan endIdx n = true → ∀ j, n < j → j < N → den j = false)
    (hN : i + recs.length = N) (hs : st.fl.stopped = false) :
    (runFrom m scan cwnm ku endIdx none i recs st acc).2.1.offered =
      st.offered ++ Spec.Scan.offeredFrom den i recs := by
  induction recs generalizing i st acc with
  | nil => simp [runFrom, finalize, Spec.Scan.offeredFrom]
  | cons r rs ih =>
    rcases hc : considerCore m scan endIdx i r (trackLine i r st) with ⟨o, st'⟩
    have q2 := considerCore_stopped hq hc hs
    have q3 : st'.offered = st.offered ++ if den i && !r.isEmpty then [i] else [] := by
      rw [(considerCore_ledger hc).1, considerCore_isSome hc, hinc, Bool.and_comm]; rfl
    simp only [List.length_cons] at hN
    rw [runFrom_none_cons]
    simp only [considerLine, hc, Spec.Scan.offeredFrom]
    split
    · -- the scanner's own stop: nothing denoted is left
      rename_i hst
      have hl : isLast scan endIdx i = true := by simp [q2] at hst; exact hst.2
      rw [offeredFrom_nil fun j h1 h2 => hlast i hl j (by omega) (by omega)]
      simp [finalize, q3]
    · rename_i hst
      rw [ih (by omega) (by simpa using hst), q3, List.append_assoc]

/-! ### two runs compared (C07, C15) -/

theorem runFrom_consumer {ku' : Bool} {acc' : Acc} :
    (runFrom m scan cwnm ku endIdx budget i recs st acc).1 = (runFrom m scan cwnm ku' endIdx budget i recs st acc').1 ∧
    (runFrom m scan cwnm ku endIdx budget i recs st acc).2.1 = (runFrom m scan cwnm ku' endIdx budget i recs st acc').2.1 := by
  induction recs generalizing budget i st acc acc' with
  | nil => exact ⟨rfl, rfl⟩
  | cons r rs ih =>
    simp only [runFrom]
    generalize considerLine m scan cwnm endIdx i r (trackLine i r st) = c
    obtain ⟨b, st1⟩ := c
    cases b <;> simp only [Bool.false_eq_true, if_false, if_true]
    · cases st1.fl.stopped
      · exact ih
      · exact ⟨rfl, rfl⟩
    · cases (budget == some 1 || budget == some 0)
      · cases st1.fl.stopped
        · exact ⟨congrArg (r :: ·) ih.1, ih.2⟩
        · exact ⟨rfl, rfl⟩
      · exact ⟨rfl, rfl⟩

/-- the loop state does not depend on the return-mode (the matcher is called on the same
    records with the same states) -/
theorem runFrom_cwnm_state {ku' : Bool} {acc' : Acc} :
    (runFrom m scan true ku endIdx none i recs st acc).2.1 = (runFrom m scan false ku' endIdx none i recs st acc').2.1 := by
  induction recs generalizing i st acc acc' with
  | nil => rfl
  | cons r rs ih =>
    rw [runFrom_none_cons, runFrom_none_cons]
    -- `considerLine` leaves the state `considerCore` leaves, in either mode: both runs end here, or both go on (`ih`)
    by_cases hst : (considerCore m scan endIdx i r (trackLine i r st)).2.fl.stopped = true <;>
      simp only [considerLine, hst, if_true]
    exact ih

/-- `collect(nexts=n)`: a prefix of `collect()` (C07) -/
theorem runFrom_budget_lines {k : Nat} :
    (runFrom m scan cwnm ku endIdx (some (k + 1)) i recs st acc).1 =
      ((runFrom m scan cwnm ku endIdx none i recs st acc).1).take (k + 1) := by
  induction recs generalizing k i st acc with
  | nil => rfl
  | cons r rs ih =>
    simp only [runFrom]
    generalize considerLine m scan cwnm endIdx i r (trackLine i r st) = c
    obtain ⟨b, st1⟩ := c
    -- a yield takes one from the budget and one from `take`, and budget 1 breaks where `take 1` ends
    cases st1.fl.stopped <;> cases b <;> cases k <;> simp [ih]

theorem runFrom_budget_zero :
    runFrom m scan cwnm ku endIdx (some 0) i recs st acc = runFrom m scan cwnm ku endIdx (some 1) i recs st acc := by
  induction recs generalizing i st acc with
  | nil => rfl
  | cons r rs ih =>
    simp only [runFrom]
    cases (considerLine m scan cwnm endIdx i r (trackLine i r st)).1
    · simp only [Bool.false_eq_true, if_false]; split
      · rfl
      · exact ih
    · rfl

/-- when the budget is used up the generator is abandoned: the result does not depend on any
    record after the one that yielded the last line asked for ("no side effect belonging to a later line") -/
theorem runFrom_budget_suffix {k : Nat}
    (hlen : k + 1 ≤ ((runFrom m scan cwnm ku endIdx none i recs st acc).1).length) :
    ∃ j, j ≤ recs.length ∧ ∀ other,
      runFrom m scan cwnm ku endIdx (some (k + 1)) i (recs.take j ++ other) st acc =
        runFrom m scan cwnm ku endIdx (some (k + 1)) i recs st acc := by
  induction recs generalizing k i st acc with
  | nil => simp [runFrom] at hlen
  | cons r rs ih =>
    simp only [runFrom] at hlen
    generalize hc : considerLine m scan cwnm endIdx i r (trackLine i r st) = c at hlen
    obtain ⟨b, st1⟩ := c
    cases b
    · -- no yield here: the prefix found for the rest of the file, one longer
      cases hs : st1.fl.stopped <;> simp [hs] at hlen
      obtain ⟨j, hj, hall⟩ := ih hlen
      exact ⟨j + 1, by simp; omega, fun other => by simp [runFrom, hc, hs, hall]⟩
    · cases k
      · exact ⟨1, by simp, fun other => by simp [runFrom, hc]⟩
      · cases hs : st1.fl.stopped <;> simp [hs] at hlen
        obtain ⟨j, hj, hall⟩ := ih hlen
        exact ⟨j + 1, by simp; omega, fun other => by simp [runFrom, hc, hs, hall]⟩

end runFrom

section entry
variable {m : MatcherSem σ} {scan : St} {cfg : Cfg} {budget : Option Nat} {n : Nat} {recs : List Rec} {st : LoopSt σ}

theorem runWith_run (hw : cfg.willRun = true) : runWith m scan cfg budget recs st =
    runFrom m scan cfg.cwnm (cfg.collecting && cfg.unmatchedAvail) (endIdxOf recs) budget 0 recs st {} := if_pos hw
theorem nextRun_run (hw : cfg.willRun = true) : nextRun m scan cfg recs st =
    runFrom m scan cfg.cwnm false (endIdxOf recs) none 0 recs st {} := if_pos hw
theorem collectRun_run (hw : cfg.willRun = true) : collectRun m scan cfg recs st =
    runFrom m scan cfg.cwnm cfg.unmatchedAvail (endIdxOf recs) none 0 recs st {} := if_pos hw
theorem collectN_run (hw : cfg.willRun = true) : collectN m scan cfg n recs st =
    runFrom m scan cfg.cwnm cfg.unmatchedAvail (endIdxOf recs) (some n) 0 recs st {} := if_pos hw

theorem runWith_norun (hw : cfg.willRun = false) : runWith m scan cfg budget recs st = ([], finalize st, {}) :=
  if_neg (Bool.eq_false_iff.mp hw)
theorem nextRun_norun (hw : cfg.willRun = false) : nextRun m scan cfg recs st = ([], finalize st, {}) :=
  runWith_norun (cfg := { cfg with collecting := false }) hw
theorem collectRun_norun (hw : cfg.willRun = false) : collectRun m scan cfg recs st = ([], finalize st, {}) :=
  runWith_norun (cfg := { cfg with collecting := true }) hw
theorem collectN_norun (hw : cfg.willRun = false) : collectN m scan cfg n recs st = ([], finalize st, {}) :=
  runWith_norun (cfg := { cfg with collecting := true }) hw

end entry

end Proofs.Run
