import Proofs.BridgeMatches
import Model.ControlTop

/-! For the bridge of the control functions (`Props.ControlTie`): `Model.ControlTop`'s world made of the Python world, and what is
    assumed of the condition (an arbitrary function of the environment that keeps `Contract`). -/
namespace Proofs.BridgeControl
open Model.ControlTop Proofs.BridgeMatches

/-- `skip`: the argument handed on to the condition; `d`: what `default_match()` answers -/
def world (ext : Py.Ext) (skip : Py.V) (d : Bool) : World Py.Env where
  evalChild e := (Py.isb (ext "child_matches" [skip] e).1 (.bool true), (ext "child_matches" [skip] e).2)
  setStopped e := Py.upd e "self.matcher.csvpath.stopped" (.bool true)
  setInvalid e := Py.upd e "self.matcher.csvpath.is_valid" (.bool false)
  setSkip e := Py.upd e "self.matcher.skip" (.bool true)
  setMatch e := Py.upd e "self.match" (.bool d)

/-- what the functions read about themselves -/
structure Facts (e : Py.Env) (n : Nat) (name : String) (d once doOnce : Bool) : Prop where
  arity : e "len(self.children)" = .int n
  name : e "self.name" = .str name
  dflt : e "self.default_match()" = .bool d
  once : e "self.once" = .bool once
  doOnce : e "self.do_once()" = .bool doOnce

/-- what the bridge assumes of the world: calls return values and leave values in the environment; the condition does not change
    what the function reads about itself -/
structure Contract (ext : Py.Ext) : Prop where
  value : ∀ name a e, Py.isExc (ext name a e).1 = false
  clean : ∀ name a e, Clean e → Clean (ext name a e).2
  facts : ∀ a e n nm d o o', Facts e n nm d o o' → Facts (ext "child_matches" a e).2 n nm d o o'

end Proofs.BridgeControl
