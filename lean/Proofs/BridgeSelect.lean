import Proofs.PyNorm
import Model.PathsStore

/-! For the bridge of the selection of group members by identity (`Props.SelectTie`): the (identity, csvpath) pairs as an object
    list of the world, given as an arbitrary list `g`; the model's selections on strings; the three loops. -/
namespace Proofs.BridgeSelect
open Model.Paths

/-- the environment shows the list `g` of (identity, csvpath) pairs -/
structure IsList (e : Py.Env) (g : List (String × String)) : Prop where
  len : e "len(idpaths)" = .int g.length
  ident : ∀ i (h : i < g.length), e (Py.ikey "idpaths" i "[0]") = .str g[i].1
  path : ∀ i (h : i < g.length), e (Py.ikey "idpaths" i "[1]") = .str g[i].2

def toModel (g : List (String × String)) : Identified := g.map fun p => (p.1.toList, p.2.toList)

theorem beq_toList (a b : String) : (a.toList == b.toList) = (a == b) := by
  rw [Bool.eq_iff_iff]; simp [String.toList_inj]

theorem eq_str (a b : String) : Py.eq (.str a) (.str b) = .bool (a == b) := Py.eq_str a b
theorem ne_str (a b : String) : Py.ne (.str a) (.str b) = .bool (!(a == b)) := Py.ne_str a b
theorem append_str (l : List String) (s : String) : Py.append_ (.strs l) (.str s) = .strs (l ++ [s]) := rfl
theorem letv_strs (l : List String) (env : Py.Env) (effs : List Py.Eff) (k : Py.V → Py.H.Res) : Py.H.letv (.strs l) env effs k = k (.strs l) :=
  rfl

/-! ### the model's three selections, on strings -/

def toM (g : List (String × String)) (ident : String) : List String := (getTo (toModel g) ident.toList).map String.ofList
def fromM (g : List (String × String)) (ident : String) : List String := (getFrom (toModel g) ident.toList).map String.ofList
def findM (g : List (String × String)) (ident : String) : Option String := (findOne (toModel g) ident.toList).map String.ofList

theorem toM_cons (x : String × String) (r : List (String × String)) (ident : String) :
    toM (x :: r) ident = x.2 :: if x.1 == ident then [] else toM r ident := by
  simp only [toM, toModel, List.map_cons, getTo, beq_toList]
  split <;> simp [String.ofList_toList]
theorem fromM_nil (ident : String) : fromM [] ident = [] := rfl
theorem fromM_cons (x : String × String) (r : List (String × String)) (ident : String) :
    fromM (x :: r) ident = if x.1 == ident then x.2 :: r.map (·.2) else fromM r ident := by
  simp only [fromM, toModel, List.map_cons, getFrom, beq_toList]
  split <;> simp [String.ofList_toList, Function.comp_def]
theorem findM_nil (ident : String) : findM [] ident = Option.none := rfl
theorem findM_cons (x : String × String) (r : List (String × String)) (ident : String) :
    findM (x :: r) ident = if x.1 == ident then some x.2 else findM r ident := by
  cases h : x.1 == ident <;> simp [findM, findOne, toModel, beq_toList, h, String.ofList_toList]

/-! ### the three loops

Each is `Py.H.forGo_rule` with the environment fixed and one carried local (at place `p`, whatever the source's other locals are)
read as the list collected so far; the round's specification (`…Body`) is what the generated body is shown to meet. -/

def ToBody (e : Py.Env) (g : List (String × String)) (ident : String) (p : Nat)
    (body : Nat → List Py.V → Py.Env → List Py.Eff → Py.H.K → Py.H.K → Py.H.Res) : Prop :=
  ∀ idx (h : idx < g.length) locs ps effs (next brk : Py.H.K), Py.nth locs p = .strs ps →
    ∃ locs', body idx locs e effs next brk = (if g[idx].1 == ident then brk locs' e effs else next locs' e effs) ∧
      Py.nth locs' p = .strs (ps ++ [g[idx].2])

theorem to_loop (e : Py.Env) (g : List (String × String)) (ident : String) (p : Nat)
    (body : Nat → List Py.V → Py.Env → List Py.Eff → Py.H.K → Py.H.K → Py.H.Res) (k : Py.H.K) (hb : ToBody e g ident p body)
    (hk : ∀ locs ps effs, Py.nth locs p = .strs ps → k locs e effs = .ok (.strs ps) e effs)
    (locs : List Py.V) (effs : List Py.Eff) (hl : Py.nth locs p = .strs []) :
    Py.H.forGo body k g.length 0 locs e effs = .ok (.strs (toM g ident)) e effs := by
  refine Py.H.forGo_rule (n := g.length)
    (fun idx locs env effs res => e = env → ∀ ps, Py.nth locs p = .strs ps → res = .ok (.strs (ps ++ toM (g.drop idx) ident)) e effs)
    ?_ ?_ g.length 0 (Nat.zero_add _) locs e effs rfl [] hl
  · rintro locs _ effs rfl ps hl
    rw [hk locs ps effs hl, List.drop_length]
    exact congrArg (Py.H.Res.ok · e effs) (congrArg Py.V.strs (List.append_nil ps).symm)
  · rintro idx hlt locs _ effs next ih rfl ps hl
    obtain ⟨locs', hb', hl'⟩ := hb idx hlt locs ps effs next k hl
    rw [hb', List.drop_eq_getElem_cons hlt, toM_cons]
    cases g[idx].1 == ident
    · simpa using ih locs' e effs rfl _ hl'
    · simpa using hk locs' _ effs hl'

def FromBody (e : Py.Env) (g : List (String × String)) (ident : String) (p : Nat)
    (body : Nat → List Py.V → Py.Env → List Py.Eff → Py.H.K → Py.H.K → Py.H.Res) : Prop :=
  ∀ idx (h : idx < g.length) locs ps effs (next brk : Py.H.K), Py.nth locs p = .strs ps →
    ∃ locs', body idx locs e effs next brk = next locs' e effs ∧
      Py.nth locs' p = .strs (if (g[idx].1 != ident && ps.isEmpty) then ps else ps ++ [g[idx].2])

theorem from_loop (e : Py.Env) (g : List (String × String)) (ident : String) (p : Nat)
    (body : Nat → List Py.V → Py.Env → List Py.Eff → Py.H.K → Py.H.K → Py.H.Res) (k : Py.H.K) (hb : FromBody e g ident p body)
    (hk : ∀ locs ps effs, Py.nth locs p = .strs ps → k locs e effs = .ok (.strs ps) e effs)
    (locs : List Py.V) (effs : List Py.Eff) (hl : Py.nth locs p = .strs []) :
    Py.H.forGo body k g.length 0 locs e effs = .ok (.strs (fromM g ident)) e effs := by
  refine Py.H.forGo_rule (n := g.length)
    (fun idx locs env effs res => e = env → ∀ ps, Py.nth locs p = .strs ps →
      res = .ok (.strs (if ps.isEmpty then fromM (g.drop idx) ident else ps ++ (g.drop idx).map (·.2))) e effs)
    ?_ ?_ g.length 0 (Nat.zero_add _) locs e effs rfl [] hl
  · rintro locs _ effs rfl ps hl
    rw [hk locs ps effs hl, List.drop_length]
    simp [fromM_nil]
  · rintro idx hlt locs _ effs next ih rfl ps hl
    obtain ⟨locs', hb', hl'⟩ := hb idx hlt locs ps effs next k hl
    rw [hb', List.drop_eq_getElem_cons hlt, fromM_cons, List.map_cons, ih locs' e effs rfl _ hl']
    cases ps <;> cases h : g[idx].1 == ident <;> simp [bne, h]

def resOf (o : Option String) (e : Py.Env) (effs : List Py.Eff) : Py.H.Res :=
  match o with
  | some p => .ok (.str p) e effs
  | Option.none => .raised "InputException" e effs

def FindBody (e : Py.Env) (g : List (String × String)) (ident : String)
    (body : Nat → List Py.V → Py.Env → List Py.Eff → Py.H.K → Py.H.K → Py.H.Res) : Prop :=
  ∀ idx (h : idx < g.length) locs effs (next brk : Py.H.K),
    ∃ locs', body idx locs e effs next brk = (if g[idx].1 == ident then .ok (.str g[idx].2) e effs else next locs' e effs)

theorem find_loop (e : Py.Env) (g : List (String × String)) (ident : String)
    (body : Nat → List Py.V → Py.Env → List Py.Eff → Py.H.K → Py.H.K → Py.H.Res) (k : Py.H.K) (hb : FindBody e g ident body)
    (hk : ∀ locs effs, k locs e effs = .raised "InputException" e effs) (locs : List Py.V) (effs : List Py.Eff) :
    Py.H.forGo body k g.length 0 locs e effs = resOf (findM g ident) e effs := by
  refine Py.H.forGo_rule (n := g.length) (fun idx _ env effs res => e = env → res = resOf (findM (g.drop idx) ident) e effs)
    ?_ ?_ g.length 0 (Nat.zero_add _) locs e effs rfl
  · rintro locs _ effs rfl
    rw [hk, List.drop_length]; rfl
  · rintro idx hlt locs _ effs next ih rfl
    obtain ⟨locs', hb'⟩ := hb idx hlt locs effs next k
    rw [hb', List.drop_eq_getElem_cons hlt, findM_cons]
    cases g[idx].1 == ident
    · exact ih locs' e effs rfl
    · rfl

/-! ### the generated bodies of `_get_to` and `_get_from` meet `ToBody` and `FromBody`

`to_with p` / `from_with p` close a goal `Py.H.forGo body k g.length 0 locs e effs = …` when the collected list is at place `p` of the
carried locals; `e g ident effs` and `hL : IsList e g` are taken from the call site.  The locals a round hands on are read off the run
of the body (`⟨_, by rfl, by rfl⟩`); that the list is at place `p` of them, and empty at place `p` of the first locals (the last `rfl`
of the `refine`), holds for the right `p` only, so the call site finds the place by trying. -/

set_option hygiene false in
macro "to_with" p:term : tactic => `(tactic|
  (refine to_loop e g ident $p _ _ ?hb ?hk _ effs rfl
   case hb =>
     intro idx hlt locs ps effs' next brk hl
     simp only [py_eval, hL.ident idx hlt, hL.path idx hlt, hl]
     exact ⟨_, by rfl, by rfl⟩
   case hk =>
     intro locs ps effs' hl
     simp only [hl, Py.H.ret]))

set_option hygiene false in
macro "from_with" p:term : tactic => `(tactic|
  (refine from_loop e g ident $p _ _ ?hb ?hk _ effs rfl
   case hb =>
     intro idx hlt locs ps effs' next brk hl
     simp only [py_eval, hL.ident idx hlt, hL.path idx hlt, hl, Py.and_bools]
     cases (g[idx].1 != ident && ps.isEmpty) <;> exact ⟨_, by rfl, by rfl⟩
   case hk =>
     intro locs ps effs' hl
     simp only [hl, Py.H.ret]))

end Proofs.BridgeSelect
