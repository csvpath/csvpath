/-
  Header lookup: `headerIndex` is the library's `findIdx?`, whose lemmas say what the index found is.
-/
import Model.Headers

namespace Proofs.Headers
open Model.Headers

theorem headerIndex_eq_findIdx? (headers : List String) (name : String) :
    headerIndex headers name = headers.findIdx? (· == name) := by
  induction headers with
  | nil => rfl
  | cons x xs ih => rw [headerIndex, List.findIdx?_cons, ih]

end Proofs.Headers
