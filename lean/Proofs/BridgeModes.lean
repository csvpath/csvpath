import Generated.CoreModes
import Proofs.PyNorm
import Model.Modes

/-! For the bridge of C15 (`Props.C15Tie`): a metadata field as a Python value (`optStr`), and the getters of `return-mode` and
    `run-mode`, which write their cache and may raise, against `Model.Modes`. -/
namespace Proofs.BridgeModes
open Model.Modes

def optStr : Option String → Py.V
  | some s => .str s
  | Option.none => .none

/-- the returned value (none = an exception was raised) -/
def okV : Py.H.Res → Option Py.V
  | .ok v _ _ => some v
  | .raised _ _ _ => Option.none

def raisedOf : Py.H.Res → Option String
  | .ok _ _ _ => Option.none
  | .raised n _ _ => some n

theorem eq_optStr (m : Option String) (s : String) : Py.eq (optStr m) (.str s) = .bool (m == some s) := by
  cases m <;> rfl

/-- a step of the symbolic run: `py_eval`, the metadata field as `optStr`, membership in a literal list, the name of the recorded
    write (`String.reduceAppend`), the model's default for a missing field (`Option.getD`), and what the case at hand adds -/
macro "md_norm" "[" ts:Lean.Parser.Tactic.simpLemma,* "]" loc:(Lean.Parser.Tactic.location)? : tactic => `(tactic|
  simp only [py_eval, optStr, String.reduceAppend, List.any_cons, List.any_nil, Option.getD, $ts,*] $[$loc]?)

/-- what the getter of `return-mode` returns and leaves behind, or that it raises -/
theorem return_mode_result (ext : Py.Ext) (e : Py.Env) (m : Option String) (effs : List Py.Eff)
    (h1 : e "self._return_mode" = .none) (h2 : e "self.controller.get(return-mode)" = optStr m) :
    Generated.Modes.ReturnMode.value ext e effs =
      match returnMode m with
      | some b => .ok (.bool b) (Py.upd e "self._return_mode" (.bool b))
          (effs ++ [{ name := "set self._return_mode", args := [.bool b] }])
      | Option.none => .raised "InputException" e effs := by
  have hd : Model.PyStr.strip "matches" = "matches" := by decide +kernel
  cases m with
  | none =>
    md_norm [py_core, h1, h2, returnMode, hd, String.reduceBEq]
  | some s =>
    -- the model's two tests `=` as the Bools the code computes, so that both sides branch on the same atoms
    md_norm [py_core, h1, h2, returnMode, ← beq_iff_eq (a := Model.PyStr.strip s)]
    generalize (Model.PyStr.strip s == "matches") = a
    generalize (Model.PyStr.strip s == "no-matches") = b
    cases a <;> cases b <;> rfl

/-- the same of `run-mode` -/
theorem run_mode_result (ext : Py.Ext) (e : Py.Env) (m : Option String) (effs : List Py.Eff)
    (h1 : e "self._run_mode" = .none) (h2 : e "self.controller.get(run-mode)" = optStr m) :
    Generated.Modes.RunMode.value ext e effs =
      match runMode m with
      | some b => .ok (.bool b) (Py.upd e "self._run_mode" (.bool b)) (effs ++ [{ name := "set self._run_mode", args := [.bool b] }])
      | Option.none => .raised "InputException" e effs := by
  have hd : Model.PyStr.strip "run" = "run" := by decide +kernel
  cases m with
  | none =>
    md_norm [py_core, h1, h2, runMode, hd, String.reduceBEq]
  | some s =>
    md_norm [py_core, h1, h2, runMode, ← beq_iff_eq (a := Model.PyStr.strip s)]
    generalize (Model.PyStr.strip s == "run") = a
    generalize (Model.PyStr.strip s == "no-run") = b
    cases a <;> cases b <;> rfl

end Proofs.BridgeModes
