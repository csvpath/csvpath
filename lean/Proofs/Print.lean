import Model.Print
import Spec.Print
import Proofs.Span
/-! Lemmas for C16: the character-level scanner inverts `source` on well-formed chunk lists.  `go_plain` is the
step for a text chunk, `go_ref` the step for a reference with its sentinel. -/
namespace Proofs.Print
open Model.Print Spec.Print

theorem go_skip (resolve : Ref → Option (List Char)) (pre rest : List Char) :
    go resolve pre.length (pre ++ rest) = go resolve 0 rest := by
  induction pre with
  | nil => rfl
  | cons c pre ih => simpa [go] using ih

theorem go_plain_char (resolve : Ref → Option (List Char)) {c : Char} {w : List Char} (h : plain c = true) :
    go resolve 0 (c :: w) = (go resolve 0 w).map (c :: ·) := by
  have h1 : (c == '$') = false := by
    simp only [plain, Bool.and_eq_true, bne_iff_ne] at h; simpa using h.1
  have h2 : (isWS c || isText c) = true := by
    simp only [plain, isText] at h ⊢
    cases hw : isWS c <;> simp_all
  simp [go, h1, h2]

theorem go_plain (resolve : Ref → Option (List Char)) (s : List Char) {w : List Char} (h : ∀ c ∈ s, plain c = true) :
    go resolve 0 (s ++ w) = (go resolve 0 w).map (s ++ ·) := by
  induction s with
  | nil => simp
  | cons c s ih =>
    obtain ⟨hc, hs⟩ := List.forall_mem_cons.mp h
    rw [List.cons_append, go_plain_char resolve hc, ih hs]
    cases go resolve 0 w <;> rfl

/-- May `x` directly follow the written name?  `Spec.Print.endsName` asks it of the last name of a reference;
    the reader also meets the name before a tracking name. -/
def follows (n : NameForm) (x : Char) : Prop :=
  match n with
  | .simple _ => isSimple x = false
  | .quoted _ => True

theorem endsName_iff (r : RefW) (c : Char) : endsName r c ↔ follows (lastName r) c := Iff.rfl

theorem follows_of_not_simple {x : Char} (n : NameForm) (h : isSimple x = false) : follows n x := by
  cases n <;> simp [follows, h]

theorem parseName_write (n : NameForm) (rest : List Char) (hn : WFName n)
    (hx : ∀ x, rest.head? = some x → follows n x) :
    parseName (writeName n ++ rest) = some (writeName n, unquoted n, rest) := by
  cases n with
  | simple s =>
    have sp := span_run hn.2 hx
    obtain ⟨a, s, rfl⟩ := List.exists_cons_of_ne_nil hn.1
    have ha : a ≠ '\'' := ne_of_class isSimple (by simp +decide [hn.2 a])
    rw [List.cons_append] at sp
    simp [writeName, unquoted, parseName, ha, sp]
  | quoted s =>
    have sp := span_until rest hn.2
    simp [writeName, unquoted, parseName, sp, hn.1]

theorem writeName_head_not_dot (n : NameForm) (hn : WFName n) : ∃ a as, writeName n = a :: as ∧ a ≠ '.' := by
  cases n with
  | simple s =>
    obtain ⟨a, s, rfl⟩ := List.exists_cons_of_ne_nil hn.1
    exact ⟨a, s, rfl, ne_of_class isSimple (by simp +decide [hn.2 a])⟩
  | quoted s => exact ⟨'\'', s ++ ['\''], rfl, by decide⟩

theorem typeOf_write (t : DType) (r : List Char) : typeOf (typeName t ++ r) = some (t, r) := by
  cases t <;> rfl

/-- the body of a written reference (after the `$`) -/
def body (r : RefW) : List Char :=
  '.' :: typeName r.dtype ++ '.' :: writeName r.name ++
    (match r.tracking with | some t => '.' :: writeName t | none => [])

theorem writeRef_eq (r : RefW) : writeRef r = '$' :: body r := rfl

/-- the sentinel that `source` writes for the character `c` after a reference: a dot is doubled -/
def esc (c : Char) : List Char := if c = '.' then ['.', '.'] else [c]

theorem parseSentinel_esc (c : Char) (rest : List Char) : parseSentinel (esc c ++ rest) = some ([c], rest) := by
  unfold esc
  split
  · subst c; rfl
  · simp only [List.cons_append, List.nil_append]; unfold parseSentinel; split <;> simp_all

/-- the sentinel starts with a character that may follow the name it ends: `c` itself or a dot -/
theorem follows_esc {n : NameForm} {c : Char} (rest : List Char) (hf : follows n c) :
    ∀ x, (esc c ++ rest).head? = some x → follows n x := by
  intro x hx
  unfold esc at hx
  split at hx <;> cases hx
  · exact follows_of_not_simple n (by decide)
  · exact hf

theorem parseRef_write (r : RefW) (hr : WFRef r) (c : Char) (rest : List Char) (hf : follows (lastName r) c) :
    parseRef (body r ++ esc c ++ rest) = some (refOf r, [c], rest) := by
  obtain ⟨dt, nm, tr⟩ := r
  obtain ⟨hn, ht⟩ := hr
  cases tr with
  | none =>
    have hp := parseName_write nm (esc c ++ rest) hn (follows_esc rest hf)
    simp only [parseRef, body, List.cons_append, List.append_assoc, List.append_nil]
    simp only [typeOf_write, hp, List.takeWhile, List.dropWhile, bne_self_eq_false, Bool.false_and]
    -- `..` is read by `parseRef` itself, any other sentinel by `parseSentinel`
    by_cases hc : c = '.'
    · subst hc; rfl
    · have hs : parseSentinel (c :: rest) = some ([c], rest) := by
        simpa [esc, hc] using parseSentinel_esc c rest
      rw [esc, if_neg hc]
      simp [hc, hs, refOf]
  | some t =>
    have hp := parseName_write nm ('.' :: (writeName t ++ (esc c ++ rest))) hn
      fun x hx => by cases hx; exact follows_of_not_simple nm (by decide)
    have hp2 := parseName_write t (esc c ++ rest) (ht t rfl) (follows_esc rest hf)
    -- the tracking name does not start with a dot, so the dot before it is not the `..` sentinel
    obtain ⟨a, as, ha, hane⟩ := writeName_head_not_dot t (ht t rfl)
    simp only [parseRef, body, List.cons_append, List.append_assoc]
    simp only [typeOf_write, hp, List.takeWhile, List.dropWhile, bne_self_eq_false, Bool.false_and]
    rw [ha, List.cons_append] at hp2
    simp [ha, hane, hp2, parseSentinel_esc, refOf]

theorem go_ref (resolve : Ref → Option (List Char)) (r : RefW) (hr : WFRef r) (c : Char) (rest : List Char)
    (hf : follows (lastName r) c) :
    go resolve 0 (writeRef r ++ esc c ++ rest) =
      match resolve (refOf r), go resolve 0 rest with
      | some v, some out => some (v ++ [c] ++ out)
      | _, _ => none := by
  have hk := go_skip resolve (body r ++ esc c) rest
  have hlen : (body r ++ esc c ++ rest).length - rest.length = (body r ++ esc c).length := by
    simp only [List.length_append]; omega
  simp only [writeRef_eq, List.cons_append, go, beq_self_eq_true, if_true, parseRef_write r hr c rest hf, hlen, hk]
  rfl

theorem source_ref_lit (a : Bool) (r : RefW) (c : Char) (s : List Char) (rest : List Chunk) :
    source a (.ref r :: .lit (c :: s) :: rest) = writeRef r ++ esc c ++ (s ++ source false rest) := by
  by_cases hc : c = '.' <;> simp [source, esc, hc]

theorem wfNameB_sound (n : NameForm) (h : wfNameB n = true) : WFName n := by
  cases n <;> simpa [wfNameB, WFName] using h

theorem wfRefB_sound (r : RefW) (h : wfRefB r = true) : WFRef r := by
  rw [wfRefB, Bool.and_eq_true] at h
  exact ⟨wfNameB_sound _ h.1, fun t ht => wfNameB_sound t (by simpa [ht] using h.2)⟩

end Proofs.Print
