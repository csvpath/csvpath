import Model.Scan
import Spec.Scan
/-! The PLY actions on the scan parts of class K. After the first `+` the scanner's state is `stB L`,
    determined by `these = L`, so a `+` list is followed on the list alone (`items_B`) and the
    denotation comes in at the end (`list_B`). A first operand `a-b` is held in `from_line`/`to_line`
    (`stA`) until the next `+`. -/

namespace Proofs.Scan
open Model.Scan Spec.Scan

theorem mem_pyRange {a b n : Nat} : n ∈ pyRange a b ↔ a ≤ n ∧ n ≤ b := by
  unfold pyRange
  simp only [List.mem_map, List.mem_range]
  constructor
  · rintro ⟨x, hx, rfl⟩; omega
  · intro h; exact ⟨n - a, by omega, by omega⟩

theorem mem_appendNew {L : List (Option Nat)} {xs : List Nat} {v : Option Nat} :
    v ∈ appendNew L xs ↔ v ∈ L ∨ ∃ x ∈ xs, v = some x := by
  induction xs generalizing L with
  | nil => simp [appendNew]
  | cons x xs ih =>
    rw [appendNew]
    split
    · rename_i h   -- `x` is in `L` already, nothing is added
      have hx : v = some x → v ∈ L := fun e => e ▸ by simpa using h
      simp only [ih, List.mem_cons, exists_eq_or_imp]
      rw [or_left_comm, or_iff_right_of_imp (Or.inl ∘ hx)]
    · simp [ih, or_assoc]

theorem appendNew_ne_nil {L : List (Option Nat)} (h : L ≠ []) (xs : List Nat) : appendNew L xs ≠ [] := by
  obtain ⟨a, ha⟩ := List.exists_mem_of_ne_nil L h
  exact List.ne_nil_of_mem (mem_appendNew.mpr (.inl ha))

theorem Item.den_iff {i : Item} {n : Nat} : i.den n = true ↔ i.lo ≤ n ∧ n ≤ i.hi := by
  cases i <;> simp [Item.den, Item.lo, Item.hi] <;> omega

/-! ### `these` alone: the state in which no range is pending -/

/-- the scanner after a `+`: the lines are in `these`, nothing else is set -/
def stB (L : List (Option Nat)) : St := { these := L }

theorem includes_B (L : List (Option Nat)) (n : Nat) : includes (stB L) n = L.contains (some n) := by
  simp [includes, stB]

theorem maxThese_eq_max? (L : List (Option Nat)) : maxThese L = (L.filterMap id).max? := by
  induction L with
  | nil => rfl
  | cons x xs ih =>
    cases x with
    | none => simpa [maxThese] using ih
    | some v =>
      rw [maxThese, ih, List.filterMap_cons_some (by rfl), List.max?_cons]
      cases (xs.filterMap id).max? <;> rfl

theorem maxThese_eq_some {L : List (Option Nat)} {m : Nat} :
    maxThese L = some m ↔ some m ∈ L ∧ ∀ n, some n ∈ L → n ≤ m := by
  simp [maxThese_eq_max?, List.max?_eq_some_iff]

theorem isLast_B {L : List (Option Nat)} {top : Nat} (htop : some top ∈ L)
    (hmax : ∀ n, some n ∈ L → n ≤ top) (e : Option Nat) (n : Nat) : isLast (stB L) e n = (n == top) := by
  have := maxThese_eq_some.mpr ⟨htop, hmax⟩
  cases L with
  | nil => cases htop
  | cons x xs => simp [isLast, stB, this, @eq_comm _ top n, Bool.beq_eq_decide_eq]

theorem exprVal_B {L : List (Option Nat)} (h : L ≠ []) : exprVal (stB L) = L := by
  simp [exprVal, stB, h]

/-- `expression + n` with no range pending -/
theorem plus_B {L : List (Option Nat)} (h : L ≠ []) (n : Nat) :
    stepOp (.ok (stB L, L)) (.plus, .num n) = .ok (stB (appendNew L [n]), appendNew L [n]) := by
  have e : addTwoLines (stB L) L (some [some n]) = stB (appendNew L [n]) := by
    obtain ⟨a, l, rfl⟩ := List.exists_cons_of_ne_nil h
    simp [addTwoLines, moveRange, extendIfNew, stB, appendNew]
  simp only [stepOp, pTerm, termVal, e, exprVal_B (appendNew_ne_nil h [n])]

/-- `expression - b` when the expression ends in `a` and is not `a` alone -/
theorem minus_B {L : List (Option Nat)} (h : L ≠ []) (a b : Nat) :
    stepOp (.ok (stB (L ++ [some a]), L ++ [some a])) (.minus, .num b) =
      .ok (stB (appendNew (L ++ [some a]) (pyRange a b)), appendNew (L ++ [some a]) (pyRange a b)) := by
  have hne : L ++ [some a] ≠ [] := by simp
  have e : collectRange (stB (L ++ [some a])) (L ++ [some a]) (some [some b]) =
      .ok (stB (appendNew (L ++ [some a]) (pyRange a b))) := by
    obtain ⟨x, l, rfl⟩ := List.exists_cons_of_ne_nil h
    -- `unfold`: `simp [collectRange]` would first derive equations split on `p1 = [x]`, at twice the cost
    unfold collectRange
    simp [moveRange, stB, List.getLast?_cons]
  simp only [stepOp, pTerm, termVal, e, exprVal_B (appendNew_ne_nil hne _)]

/-- an operand whose start is new adds the lines it denotes -/
theorem item_B {L : List (Option Nat)} (h : L ≠ []) (i : Item) (hnew : some i.lo ∉ L) (hle : i.lo ≤ i.hi) :
    ∃ L', i.ops.foldl stepOp (.ok (stB L, L)) = .ok (stB L', L') ∧ L' ≠ [] ∧
      ∀ n, some n ∈ L' ↔ some n ∈ L ∨ i.den n = true := by
  cases i with
  | line m =>
    refine ⟨_, plus_B h m, appendNew_ne_nil h _, fun n => ?_⟩
    simp [mem_appendNew, Item.den]
  | range a b =>
    have e : appendNew L [a] = L ++ [some a] := by simpa [appendNew, Item.lo] using hnew
    refine ⟨appendNew (L ++ [some a]) (pyRange a b), ?_, appendNew_ne_nil (by simp) _, fun n => ?_⟩
    · simp only [Item.ops, List.foldl_cons, List.foldl_nil, plus_B h, e, minus_B h]
    · simp only [Item.lo, Item.hi] at hle
      simp only [mem_appendNew, mem_pyRange, Item.den, List.mem_append, List.mem_singleton, Option.some.injEq,
        decide_eq_true_eq, exists_eq_right', or_assoc]
      have hna : n = a → a ≤ n ∧ n ≤ b := by rintro rfl; exact ⟨Nat.le_refl _, hle⟩
      rw [or_iff_right_of_imp hna]

/-- ascending operands keep being new: every line so far lies below `lo` -/
theorem items_B (items : List Item) {L : List (Option Nat)} {lo : Nat} (h : L ≠ [])
    (hlt : ∀ n, some n ∈ L → n < lo) (hasc : ascendingFrom lo items) :
    ∃ L', (items.flatMap Item.ops).foldl stepOp (.ok (stB L, L)) = .ok (stB L', L') ∧
      ∀ n, some n ∈ L' ↔ some n ∈ L ∨ items.any (·.den n) = true := by
  induction items generalizing L lo with
  | nil => exact ⟨L, rfl, by simp⟩
  | cons i is ih =>
    obtain ⟨hlo, hle, hrest⟩ := hasc
    obtain ⟨L1, e1, h1, m1⟩ := item_B h i (fun hm => by have := hlt _ hm; omega) hle
    obtain ⟨L2, e2, m2⟩ := ih h1 (lo := i.hi + 1)
      (fun n hn => by rcases (m1 n).mp hn with hn | hn
                      · have := hlt n hn; omega
                      · have := Item.den_iff.mp hn; omega) hrest
    refine ⟨L2, by rw [List.flatMap_cons, List.foldl_append, e1, e2], fun n => ?_⟩
    rw [m2, m1, List.any_cons, Bool.or_eq_true, or_assoc]

/-- the end of the last operand of an ascending list is denoted and is the greatest denoted line -/
theorem list_last (f : Item) (r : List Item) (hk : (K.list f r).WF) :
    ((K.list f r).den (r.getLast?.getD f).hi = true) ∧
    (∀ n, (K.list f r).den n = true → n ≤ (r.getLast?.getD f).hi) := by
  induction r generalizing f with
  | nil => simp [K.den, Item.den_iff, hk.1]
  | cons g gs ih =>
    -- `f + g + gs` denotes the lines of `f` and those of `g + gs`, which has the same last operand
    obtain ⟨hf, hlo, hg, hrest⟩ := hk
    obtain ⟨h1, h2⟩ := ih g ⟨hg, hrest⟩
    have hden : ∀ n, (K.list f (g :: gs)).den n = (f.den n || (K.list g gs).den n) := fun n => by simp [K.den]
    have hgl : g.hi ≤ (gs.getLast?.getD g).hi := h2 g.hi (by simp [K.den, Item.den_iff, hg])
    simp only [List.getLast?_cons, Option.getD_some, hden, Bool.or_eq_true, h1, or_true, true_and]
    rintro n (hn | hn)
    · have := Item.den_iff.mp hn; omega
    · exact h2 n hn

theorem last?_greatest {k : K} (hk : k.WF) {m : Nat} (h : k.last? = some m) :
    k.den m = true ∧ ∀ n, k.den n = true → n ≤ m := by
  cases k with
  | all | fromN _ => cases h
  | loneRange a b =>
    cases h
    simp only [K.den, decide_eq_true_eq]
    exact ⟨by omega, fun n hn => hn.2⟩
  | list f r => cases h; exact list_last f r hk

/-- a scanner that answers `is_last` by `k.last?` stops the run after the last denoted line: nothing denoted
    follows in a file of `N` records whose end index is `e` -/
theorem none_after_last {k : K} (hk : k.WF) {s : St} {e : Option Nat} {N : Nat}
    (hlast : ∀ n, isLast s e n = match k.last? with | some m => n == m | none => e == some n)
    (he : ∀ i, e = some i → N ≤ i + 1) :
    ∀ n, isLast s e n = true → ∀ j, n < j → j < N → k.den j = false := by
  intro n hn j hj hjN
  rw [hlast] at hn
  cases hk' : k.last? with
  | none =>
    have := he n (by simpa [hk'] using hn)
    omega
  | some m =>
    obtain rfl : n = m := by simpa [hk'] using hn
    exact Bool.eq_false_iff.mpr fun hd => by have := (last?_greatest hk hk').2 j hd; omega

theorem parse_num (m : Nat) (rest : List (Op × Term)) :
    parse ⟨.num m, rest⟩ = finish (rest.foldl stepOp (.ok (stB [some m], [some m]))) := rfl

/-- once the first operand is in `these`, the rest of the list is a fold over `these` -/
theorem list_B (f : Item) (r : List Item) (hk : (K.list f r).WF)
    {L : List (Option Nat)} (hL : ∀ n, some n ∈ L ↔ f.den n = true) :
    ∃ s, finish ((r.flatMap Item.ops).foldl stepOp (.ok (stB L, L))) = .ok s ∧
      (∀ n, includes s n = (K.list f r).den n) ∧ ∀ e n, isLast s e n = (n == (r.getLast?.getD f).hi) := by
  have hne : L ≠ [] := List.ne_nil_of_mem ((hL f.lo).mpr (Item.den_iff.mpr ⟨Nat.le_refl _, hk.1⟩))
  obtain ⟨L', e, m⟩ := items_B r hne
    (fun n hn => by have := Item.den_iff.mp ((hL n).mp hn); omega) hk.2
  have hden : ∀ n, some n ∈ L' ↔ (K.list f r).den n = true := fun n => by rw [m, hL]; simp [K.den]
  obtain ⟨h1, h2⟩ := list_last f r hk
  refine ⟨stB L', by rw [e]; rfl, fun n => ?_, isLast_B ((hden _).mpr h1) (fun n hn => h2 n ((hden n).mp hn))⟩
  rw [includes_B, Bool.eq_iff_iff, ← hden]; simp

/-! ### a first operand `a-b` stays pending in `from_line`/`to_line` until the next `+` -/

def stA (a b : Nat) : St := { these := [], all := false, frm := some a, to := some b }

theorem minus_first (a b : Nat) : stepOp (.ok (stB [some a], [some a])) (.minus, .num b) = .ok (stA a b, [some a]) := by
  unfold stepOp collectRange; simp [pTerm, termVal, stB, stA, exprVal]

/-- the next `+` moves the pending range into `these` -/
theorem plus_A (a b m : Nat) (h : a ≤ b) :
    stepOp (.ok (stA a b, [some a])) (.plus, .num m) =
      stepOp (.ok (stB (appendNew [] (pyRange a b)), appendNew [] (pyRange a b))) (.plus, .num m) := by
  have ha : some a ∈ appendNew [] (pyRange a b) := by simp [mem_appendNew, mem_pyRange, h]
  have hm : moveRange (stA a b) = stB (appendNew [] (pyRange a b)) := rfl
  generalize appendNew [] (pyRange a b) = L at ha hm
  cases L with
  | nil => cases ha
  | cons x xs =>
    have hB : moveRange (stB (x :: xs)) = stB (x :: xs) := rfl
    simp only [stepOp, pTerm, addTwoLines, hm, hB]
    simp [stB, extendIfNew, ha]

theorem includes_A (a b n : Nat) : includes (stA a b) n = (K.loneRange a b).den n := by
  rw [Bool.eq_iff_iff]
  simp only [includes, stA, K.den]
  by_cases h : a > b <;> simp [h] <;> omega

theorem isLast_A (a b : Nat) (e : Option Nat) (n : Nat) :
    isLast (stA a b) e n = (n == max a b) := by
  rw [Bool.eq_iff_iff]
  simp only [isLast, stA]
  by_cases h : a > b <;> simp [h] <;> omega

theorem parse_list (f : Item) (r : List Item) (hk : (K.list f r).WF) :
    ∃ s, parse (K.list f r).toExpr = .ok s ∧ (∀ n, includes s n = (K.list f r).den n) ∧
      ∀ e n, isLast s e n = (n == (r.getLast?.getD f).hi) := by
  cases f with
  | line m => exact list_B (.line m) r hk (L := [some m]) (by simp [Item.den])
  | range a b =>
    have hf : a ≤ b := hk.1
    simp only [K.toExpr, parse_num, List.foldl_cons, minus_first]
    cases r with
    | nil =>
      refine ⟨stA a b, rfl, fun n => ?_, fun e n => ?_⟩
      · simp [includes_A, K.den, Item.den, Nat.min_eq_left hf, Nat.max_eq_right hf]
      · simp [isLast_A, Item.hi, Nat.max_eq_right hf]
    | cons i is =>
      have e : ∀ rest, (i.ops ++ rest).foldl stepOp (.ok (stA a b, [some a])) = (i.ops ++ rest).foldl stepOp
          (.ok (stB (appendNew [] (pyRange a b)), appendNew [] (pyRange a b))) := fun rest => by
        cases i <;> simp only [Item.ops, List.cons_append, List.foldl_cons, plus_A a b _ hf]
      rw [List.flatMap_cons, e, ← List.flatMap_cons]
      exact list_B (.range a b) (i :: is) hk (by simp [mem_appendNew, mem_pyRange, Item.den])

end Proofs.Scan
