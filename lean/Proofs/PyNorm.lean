import Model.Py
import Proofs.PyAttr

/-! What the prelude's operators and statements (Model/Py.lean) do on values of known shape — a Bool, an Int, a string, a list, a value
that is no exception — so that a bridge can run the generated code by `simp only` (DESIGN AB.8, *How a bridge is proved*).

`py_eval` holds the lemmas whose left-hand side is an operator on constructors, and core's lemmas on `if` and on `&&`, `||`, `!` with a
constant, which tidy up after them.  No two of the `Py` lemmas overlap, so what a step rewrites to does not depend on the order in
which simp tries them; hence `and_bools` (it overlaps `and_true`) and the lemmas on Ints (a model that counts in Nat wants `eq_nat`, not
`eq_int`) are left for the bridge to name.  The statements on a value that is no exception (`letv_ok`, `ret_ok`, `setattr_ok`) are in
the set with their side condition `Py.isExc v = false`: simp discharges it for a constructor (`isExc_none` …) and from a hypothesis
about `v` named in the set; `cond_clean`, `call_ok`, `is_bool`, which a bridge wants at chosen values only, are passed with their
condition (`Py.H.cond_clean h`).  A simp set may name what only another arrangement of the source needs (DESIGN AB.7); the linter for unused
simp arguments is off where that happens.

When a run gets stuck, what `simp only` leaves standing says what is missing: `Py.H.letv (e "k") …` or `Py.H.cond (e "k") …` — no fact
about the key `k` (extend the bridge's `Facts`/`ReadOnly`/`Contract`); `Py.upd … "k" v "k'"` — a read past a write that neither the
bridge's `rd_*`/`upd_*` lemmas nor `Py.upd_other` covers; `Py.nth locs j` — the loop-carried locals are not those the loop lemma is
given; an operator on values of known shape (`Py.lt (.int 0) (natV n)`) — no lemma for this operator in this order of arguments: state
it beside its twin and name it in the bridge's simp set. -/
namespace Py

attribute [py_eval] if_true if_false Bool.false_eq_true Bool.not_true Bool.not_false Bool.and_true Bool.and_false Bool.true_and
  Bool.false_and Bool.or_true Bool.or_false Bool.true_or Bool.false_or

/-! ### no constructor but `exc` is an exception

Not by `rfl`: a `rfl` lemma is used by `dsimp` alone and cannot discharge the side condition of `letv_ok`, `ret_ok`, `setattr_ok` (the
run stops at the statement; `trace.Meta.Tactic.simp.discharge` says "failed to assign proof"). -/

@[py_eval] theorem isExc_none : isExc .none = false := by simp only [isExc]
@[py_eval] theorem isExc_bool (b : Bool) : isExc (.bool b) = false := by simp only [isExc]
@[py_eval] theorem isExc_int (i : Int) : isExc (.int i) = false := by simp only [isExc]
@[py_eval] theorem isExc_str (s : String) : isExc (.str s) = false := by simp only [isExc]
@[py_eval] theorem isExc_ints (l : List (Option Int)) : isExc (.ints l) = false := by simp only [isExc]
@[py_eval] theorem isExc_strs (l : List String) : isExc (.strs l) = false := by simp only [isExc]

/-! ### `not`, `bool()`, `and`, `or`, `x if c else y` -/

@[py_eval] theorem not_bool (b : Bool) : not_ (.bool b) = .bool (!b) := rfl
theorem not_clean {v : V} (h : isExc v = false) : not_ v = .bool (!truthy v) := by
  cases v <;> first | rfl | cases h
@[py_eval] theorem bool_bool (b : Bool) : bool_ (.bool b) = .bool b := rfl
@[py_eval] theorem and_true (x : V) : and_ (.bool true) x = x := rfl
@[py_eval] theorem and_false (x : V) : and_ (.bool false) x = .bool false := rfl
theorem and_bools (a b : Bool) : and_ (.bool a) (.bool b) = .bool (a && b) := by cases a <;> rfl
theorem and_truthy {a b : V} (h : truthy a = true) : and_ a b = b := by
  cases a <;> simp [truthy] at h <;> simp [and_, truthy, h]
@[py_eval] theorem or_true (x : V) : or_ (.bool true) x = .bool true := rfl
@[py_eval] theorem or_false (x : V) : or_ (.bool false) x = x := rfl
theorem or_bools (a b : Bool) : or_ (.bool a) (.bool b) = .bool (a || b) := by cases a <;> rfl
@[py_eval] theorem ite_bool (b : Bool) (x y : V) : ite_ (.bool b) x y = if b = true then x else y := by cases b <;> rfl

/-! ### `is`, `==`, `!=` -/

@[py_eval] theorem is_none_bool (b : Bool) : is_ .none (.bool b) = .bool false := rfl
@[py_eval] theorem is_none_none : is_ .none .none = .bool true := rfl
@[py_eval] theorem is_bool_none (b : Bool) : is_ (.bool b) .none = .bool false := rfl
@[py_eval] theorem is_int_none (i : Int) : is_ (.int i) .none = .bool false := rfl
theorem is_bool {v : V} {b : Bool} (h : isExc v = false) : is_ v (.bool b) = .bool (isb v (.bool b)) := by
  cases v <;> first | rfl | cases h
theorem isnot_bool {v : V} {b : Bool} (h : isExc v = false) : isnot v (.bool b) = .bool (!isb v (.bool b)) := by
  cases v <;> first | rfl | cases h

@[py_eval] theorem eq_bools (a b : Bool) : eq (.bool a) (.bool b) = .bool (a == b) := by cases a <;> cases b <;> rfl
@[py_eval] theorem eq_str (a b : String) : eq (.str a) (.str b) = .bool (a == b) := rfl
@[py_eval] theorem ne_str (a b : String) : ne (.str a) (.str b) = .bool (a != b) := rfl
theorem eq_int (a b : Int) : eq (.int a) (.int b) = .bool (a == b) := rfl
theorem eq_nat (a b : Nat) : eq (.int a) (.int b) = .bool (a == b) := by
  show V.bool ((a : Int) == (b : Int)) = _
  congr 1; rw [Bool.eq_iff_iff]; simp only [beq_iff_eq, Int.natCast_inj]
theorem eq_one (n : Nat) : eq (.int n) (.int 1) = .bool (n == 1) := eq_nat n 1
theorem eqb_nat (a b : Nat) : eqb (.int a) (.int b) = (a == b) := V.bool.inj (eq_nat a b)

/-! ### arithmetic and order -/

theorem add_int (a b : Int) : add (.int a) (.int b) = .int (a + b) := rfl
theorem sub_int (a b : Int) : sub (.int a) (.int b) = .int (a - b) := rfl
theorem lt_int (a b : Int) : lt (.int a) (.int b) = .bool (decide (a < b)) := rfl
theorem le_int (a b : Int) : le (.int a) (.int b) = .bool (decide (a ≤ b)) := rfl
theorem gt_int (a b : Int) : gt (.int a) (.int b) = .bool (decide (a > b)) := rfl
theorem ge_int (a b : Int) : ge (.int a) (.int b) = .bool (decide (a ≥ b)) := rfl
theorem gt_nat_zero (n : Nat) : gt (.int n) (.int 0) = .bool (decide (0 < n)) :=
  congrArg V.bool (decide_eq_decide.2 Int.natCast_pos)

/-! ### strings and lists -/

@[py_eval] theorem strip_str (s : String) : strip_ (.str s) = .str (Model.PyStr.strip s) := rfl
/-- `s.find(t) > -1`: `t` occurs in `s` -/
@[py_eval] theorem find_gt (s t : String) : gt (find_ (.str s) (.str t)) (.int (-1)) = .bool (findFrom t.toList s.toList 0).isSome := by
  simp only [find_]
  cases findFrom t.toList s.toList 0 with
  | none => rfl
  | some i => exact congrArg V.bool (decide_eq_true (by omega))
@[py_eval] theorem in_strs (w : String) (l : List String) : in_ (.str w) (.strs l) = .bool (l.any (w == ·)) := rfl
@[py_eval] theorem notin_strs (w : String) (l : List String) : notin (.str w) (.strs l) = .bool (!l.any (w == ·)) := rfl
@[py_eval] theorem len_strs_eq_zero (l : List String) : eq (len (.strs l)) (.int 0) = .bool l.isEmpty :=
  (eq_nat l.length 0).trans (by cases l <;> rfl)
@[py_eval] theorem len_strs_gt_zero (l : List String) : gt (len (.strs l)) (.int 0) = .bool (!l.isEmpty) :=
  (gt_nat_zero l.length).trans (by cases l <;> rfl)
@[py_eval] theorem len_ints_gt_zero (l : List (Option Int)) : gt (len (.ints l)) (.int 0) = .bool (!l.isEmpty) :=
  (gt_nat_zero l.length).trans (by cases l <;> rfl)

/-! ### statements of the plain mode (no environment threaded) -/

@[py_eval] theorem cond_bool (b : Bool) (effs : List Eff) (x y : Res) : cond (.bool b) effs x y = if b = true then x else y := by
  cases b <;> rfl
@[py_eval] theorem letv_ok {v : V} {effs : List Eff} {k : V → Res} (h : isExc v = false) : letv v effs k = k v := by
  cases v <;> first | rfl | cases h
@[py_eval] theorem ret_ok {v : V} {effs : List Eff} (h : isExc v = false) : ret v effs = .ok v effs := by
  cases v <;> first | rfl | cases h
theorem firstExc_one {v : V} (h : isExc v = false) : firstExc [v] = Option.none := by
  cases v <;> first | rfl | cases h
theorem eff_ok {name : String} {args : List V} {effs : List Eff} {k : List Eff → Res} (ha : firstExc args = Option.none) :
    eff name args effs k = k (effs ++ [{ name := name, args := args }]) := by
  simp only [eff, ha]
/-- to compare with a model that gives a Bool by cases -/
theorem ok_bool_ite (c : Prop) [Decidable c] (a b : Bool) (effs : List Eff) :
    Res.ok (.bool (if c then a else b)) effs = if c then .ok (.bool a) effs else .ok (.bool b) effs :=
  apply_ite (fun x => Res.ok (.bool x) effs) c a b

/-! ### heap mode: the environment, statements, calls into the world -/

@[py_eval] theorem upd_same (e : Env) (k : String) (v : V) : upd e k v k = v := if_pos rfl
/-- for keys that are literals: `simp only [Py.upd_other, String.reduceEq, not_false_eq_true]` -/
theorem upd_other {e : Env} {k k' : String} {v : V} (h : ¬ k' = k) : upd e k v k' = e k' := if_neg h

namespace H

@[py_eval] theorem cond_bool (b : Bool) (env : Env) (effs : List Eff) (x y : Res) :
    cond (.bool b) env effs x y = if b = true then x else y := by cases b <;> rfl
theorem cond_clean {c : V} {env : Env} {effs : List Eff} {x y : Res} (h : isExc c = false) :
    cond c env effs x y = if truthy c = true then x else y := by
  cases c <;> first | rfl | cases h
@[py_eval] theorem letv_ok {v : V} {env : Env} {effs : List Eff} {k : V → Res} (h : isExc v = false) : letv v env effs k = k v := by
  cases v <;> first | rfl | cases h
@[py_eval] theorem ret_ok {v : V} {env : Env} {effs : List Eff} (h : isExc v = false) : ret v env effs = .ok v env effs := by
  cases v <;> first | rfl | cases h
@[py_eval] theorem bind_ok (v : V) (env : Env) (effs : List Eff) (k : V → Env → List Eff → Res) : bind (.ok v env effs) k = k v env effs := rfl
@[py_eval] theorem setattr_ok {path : String} {v : V} {env : Env} {effs : List Eff} {k : Env → List Eff → Res} (h : isExc v = false) :
    setattr path v env effs k = k (upd env path v) (effs ++ [{ name := "set " ++ path, args := [v] }]) := by
  cases v <;> first | rfl | cases h
@[py_eval] theorem eff_nil (name : String) (env : Env) (effs : List Eff) (k : List Eff → Res) :
    eff name [] env effs k = k (effs ++ [{ name := name, args := [] }]) := rfl
theorem call_ok {ext : Ext} {name : String} (args : List V) {env : Env} {effs : List Eff} {k : V → Env → List Eff → Res}
    (ha : firstExc args = Option.none) (hv : isExc (ext name args env).1 = false) :
    call ext name args env effs k =
      k (ext name args env).1 (ext name args env).2 (effs ++ [{ name := "call " ++ name, args := args }]) := by
  simp only [call, ha]
  generalize (ext name args env).1 = v at hv
  cases v <;> first | rfl | cases hv
@[py_eval] theorem oracle_int (ext : Ext) (name : String) (z : Int) (env : Env) : oracle ext name [.int z] env = (ext name [.int z] env).1 :=
  rfl

/-! ### loops: the rule for `forGo` -/

/-- `for … in <a list of n elements>`, when the loop starts -/
theorem forRange_nat (n : Nat) (locs : List V) (env : Env) (effs : List Eff) (body : Nat → List V → Env → List Eff → K → K → Res)
    (k : K) : forRange (.int n) locs env effs body k = forGo body k n 0 locs env effs := by
  simp only [forRange, natOf, Int.toNat_natCast]

/-- backward induction over the rounds of a `for` loop over `n` elements: `Q idx locs env effs res` says that `res` is the right
    outcome of the rest of the loop when round `idx` starts with these locals, environment and effects; a round may use what `Q`
    says of the next one for whatever it hands to `next` -/
theorem forGo_rule {body : Nat → List V → Env → List Eff → K → K → Res} {k : K} {n : Nat}
    (Q : Nat → List V → Env → List Eff → Res → Prop) (hend : ∀ locs env effs, Q n locs env effs (k locs env effs))
    (hstep : ∀ idx, idx < n → ∀ locs env effs (next : K), (∀ locs' env' effs', Q (idx + 1) locs' env' effs' (next locs' env' effs')) →
      Q idx locs env effs (body idx locs env effs next k)) :
    ∀ r idx, idx + r = n → ∀ locs env effs, Q idx locs env effs (forGo body k r idx locs env effs) := by
  intro r
  induction r with
  | zero => intro idx h locs env effs; cases h; exact hend locs env effs
  | succ r ih =>
    intro idx h locs env effs
    exact hstep idx (by omega) locs env effs _ (ih (idx + 1) (by omega))

end H

end Py
