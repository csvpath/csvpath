import Proofs.PyNorm
import Model.RunLoop

/-! For the bridge of the line monitor (`Props.MonitorTie`): the monitor after `i` records (`monEnv`), and reads and writes of its
    four counters. -/
namespace Proofs.BridgeLineMonitor
open Model.Run

def optInt (none? : Bool) (z : Int) : Py.V := if none? then .none else .int z

/-- the monitor after `i` records: nothing is set before the first record -/
def monEnv (rest : Py.Env) (i : Nat) (dc dn : Int) : Py.Env := fun k =>
  if k = "self._physical_line_count" then optInt (i == 0) i
  else if k = "self._physical_line_number" then optInt (i == 0) ((i : Int) - 1)
  else if k = "self._data_line_count" then optInt (i == 0) dc
  else if k = "self._data_line_number" then optInt (i == 0) dn
  else rest k

def okVE : Py.H.Res → Option (Py.V × Py.Env)
  | .ok v e _ => some (v, e)
  | .raised _ _ _ => Option.none

/-- the monitor's four counters, whatever they hold: the form in which `next_line` writes them one by one -/
def counters (rest : Py.Env) (pc pn dc dn : Py.V) (k : String) : Py.V :=
  if k = "self._physical_line_count" then pc
  else if k = "self._physical_line_number" then pn
  else if k = "self._data_line_count" then dc
  else if k = "self._data_line_number" then dn
  else rest k

theorem monEnv_zero (rest : Py.Env) (dc dn : Int) : monEnv rest 0 dc dn = counters rest .none .none .none .none := rfl
theorem monEnv_succ (rest : Py.Env) (i : Nat) (dc dn : Int) :
    monEnv rest (i + 1) dc dn = counters rest (.int (i + 1)) (.int i) (.int dc) (.int dn) := by
  unfold monEnv counters
  simp only [Int.natCast_add, Int.natCast_one, Int.add_sub_cancel]
  rfl

theorem upd_pc (rest : Py.Env) (pc pn dc dn v : Py.V) :
    Py.upd (counters rest pc pn dc dn) "self._physical_line_count" v = counters rest v pn dc dn := by
  funext k; unfold Py.upd counters; by_cases h : k = "self._physical_line_count" <;> simp only [h, String.reduceEq, if_true, if_false]
theorem upd_pn (rest : Py.Env) (pc pn dc dn v : Py.V) :
    Py.upd (counters rest pc pn dc dn) "self._physical_line_number" v = counters rest pc v dc dn := by
  funext k; unfold Py.upd counters; by_cases h : k = "self._physical_line_number" <;> simp only [h, String.reduceEq, if_true, if_false]
theorem upd_dc (rest : Py.Env) (pc pn dc dn v : Py.V) :
    Py.upd (counters rest pc pn dc dn) "self._data_line_count" v = counters rest pc pn v dn := by
  funext k; unfold Py.upd counters; by_cases h : k = "self._data_line_count" <;> simp only [h, String.reduceEq, if_true, if_false]
theorem upd_dn (rest : Py.Env) (pc pn dc dn v : Py.V) :
    Py.upd (counters rest pc pn dc dn) "self._data_line_number" v = counters rest pc pn dc v := by
  funext k; unfold Py.upd counters; by_cases h : k = "self._data_line_number" <;> simp only [h, String.reduceEq, if_true, if_false]

theorem rd_pc (rest : Py.Env) (pc pn dc dn : Py.V) : counters rest pc pn dc dn "self._physical_line_count" = pc := by
  unfold counters; simp only [if_true]
theorem rd_pn (rest : Py.Env) (pc pn dc dn : Py.V) : counters rest pc pn dc dn "self._physical_line_number" = pn := by
  unfold counters; simp only [String.reduceEq, if_true, if_false]
theorem rd_dc (rest : Py.Env) (pc pn dc dn : Py.V) : counters rest pc pn dc dn "self._data_line_count" = dc := by
  unfold counters; simp only [String.reduceEq, if_true, if_false]

/-! `data and len(data) > 0` is the record itself when that is empty, hence not always a Bool: the code is run on what the
    value is as a condition. -/

theorem isExc_hasData (r : Rec) (b : Bool) : Py.isExc (Py.and_ (.strs r) (.bool b)) = false := by cases r <;> rfl
theorem truthy_hasData (r : Rec) (b : Bool) : Py.truthy (Py.and_ (.strs r) (.bool b)) = (!r.isEmpty && b) := by cases r <;> rfl

theorem letv_ok (v : Py.V) (env : Py.Env) (effs : List Py.Eff) (k : Py.V → Py.H.Res) (h : Py.isExc v = false) :
    Py.H.letv v env effs k = k v := Py.H.letv_ok h
theorem isExc_none : Py.isExc Py.V.none = false := rfl
theorem ret_none (e : Py.Env) (ef : List Py.Eff) : Py.H.ret Py.V.none e ef = .ok .none e ef := rfl
theorem bind_ok (v : Py.V) (e : Py.Env) (ef : List Py.Eff) (k : Py.V → Py.Env → List Py.Eff → Py.H.Res) :
    Py.H.bind (.ok v e ef) k = k v e ef := rfl

end Proofs.BridgeLineMonitor
