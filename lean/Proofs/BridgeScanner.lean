import Proofs.PyNorm
import Model.Scan

/-! For the bridge of C02 (`Props.C02Tie`): the scanner object made of the model's state (`scanEnv`), the prelude on the list
    `these` and on an end that may be missing (`optNat`). -/
namespace Proofs.BridgeScanner
open Model.Scan

def optNat : Option Nat → Py.V
  | some n => .int n
  | Option.none => .none

def theseV (xs : List (Option Nat)) : Py.V := .ints (xs.map (Option.map Int.ofNat))

/-- the scanner object as `includes`/`is_last` read it -/
def scanEnv (s : St) (endLine : Option Nat) : Py.Env := fun k =>
  if k = "self.from_line" then optNat s.frm
  else if k = "self.to_line" then optNat s.to
  else if k = "self.all_lines" then .bool s.all
  else if k = "self.these" then theseV s.these
  else if k = "self.csvpath.line_monitor.physical_end_line_number" then optNat endLine
  else .exc "AttributeError"

/-! ### the prelude on the list `these` -/

theorem eqOpt_nat (line : Nat) (x : Option Nat) : Py.eqOpt (.int line) (x.map Int.ofNat) = (some line == x) := by
  cases x with
  | none => rfl
  | some n => exact Py.eqb_nat line n

theorem in_these (line : Nat) (xs : List (Option Nat)) :
    Py.in_ (.int line) (.ints (xs.map (Option.map Int.ofNat))) = .bool (xs.contains (some line)) := by
  simp only [Py.in_, Py.strict2, List.any_map, List.contains_eq_any_beq]
  exact congrArg (fun p => Py.V.bool (xs.any p)) (funext (eqOpt_nat line))

theorem len_these (xs : List (Option Nat)) : Py.len (.ints (xs.map (Option.map Int.ofNat))) = .int xs.length := by
  simp only [Py.len, List.length_map]

theorem allInts_some (ys : List Nat) :
    Py.allInts ((ys.map some).map (Option.map Int.ofNat)) = some (ys.map Int.ofNat) := by
  induction ys with
  | nil => rfl
  | cons y ys ih => simp only [List.map_cons, Option.map, Py.allInts, ih]

theorem maxList_nat (ys : List Nat) : Py.maxList (ys.map Int.ofNat) = (maxThese (ys.map some)).map Int.ofNat := by
  induction ys with
  | nil => rfl
  | cons y ys ih =>
    simp only [List.map_cons, Py.maxList, maxThese, ih]
    cases maxThese (ys.map some) with
    | none => rfl
    | some m => simp only [Option.map, Int.ofNat_eq_natCast]; congr 1; omega

/-- Python's `max` of a list without None that is not empty (on the empty list it raises: the code asks for the length first) -/
theorem max_these (y : Nat) (ys : List Nat) :
    Py.max (.ints (((y :: ys).map some).map (Option.map Int.ofNat))) = optNat (maxThese ((y :: ys).map some)) := by
  have h := congrArg (Option.bind · Py.maxList) (allInts_some (y :: ys))
  simp only [Option.bind_some, maxList_nat] at h
  simp only [List.map_cons, Option.map_some] at h ⊢
  simp only [Py.max, h, maxThese]
  cases maxThese (ys.map some) <;> rfl

/-! ### the prelude on `optNat` -/

theorem optNat_none : optNat none = .none := rfl
theorem optNat_some (n : Nat) : optNat (some n) = .int n := rfl
theorem isExc_optNat (o : Option Nat) : Py.isExc (optNat o) = false := by cases o <;> rfl
theorem is_optNat (o : Option Nat) : Py.is_ (optNat o) .none = .bool o.isNone := by cases o <;> rfl
theorem isnot_optNat (o : Option Nat) : Py.isnot (optNat o) .none = .bool o.isSome := by cases o <;> rfl
theorem eq_optNat (o : Option Nat) (i : Nat) : Py.eq (optNat o) (.int i) = .bool (o == some i) :=
  match o with
  | none => rfl
  | some n => Py.eq_nat n i
theorem int_eq_optNat (i : Nat) (o : Option Nat) : Py.eq (.int i) (optNat o) = .bool (o == some i) :=
  match o with
  | none => rfl
  | some n => (Py.eq_nat i n).trans (congrArg Py.V.bool (Bool.beq_comm ..))

/-- a step of the symbolic run of `includes`/`is_last`; it closes the goal once the two sides have come to the same form.
    `py_eval`;
    the ends as `optNat`: a test on an end that may be missing becomes the model's `isNone`/`isSome`/`== some i`, which
      `Option.isSome_…`/`isNone_…` evaluate once the end is given (`optNat_none`, `optNat_some` then give its value);
    `these`: membership, `max`, and emptiness of the mapped list (`List.isEmpty_…`);
    comparisons of Ints as `decide` of the model's comparisons of Nats (`Py.lt_int` … `Py.ge_int`, `Int.ofNat_le`, `Int.ofNat_lt`), `and`
      of two such Bools, and the optional parameters left at their default, `-1 == -1` (`Py.eq_int`, `BEq.rfl`);
    the model's side in the form of the code's: an `if` between Bools as an `if` between results (`Py.ok_bool_ite`), `decide (a ∧ b)`
      split, `decide c = true` as `c`;
    and what the case at hand adds -/
macro "sc_norm" "[" ts:Lean.Parser.Tactic.simpLemma,* "]" loc:(Lean.Parser.Tactic.location)? : tactic => `(tactic|
  simp only [py_eval, isExc_optNat, is_optNat, isnot_optNat, eq_optNat, int_eq_optNat, optNat_none, optNat_some,
    in_these, max_these, Py.and_bools, Py.eq_int, BEq.rfl, Py.lt_int, Py.le_int, Py.gt_int, Py.ge_int, Int.ofNat_le,
    Int.ofNat_lt, Py.ok_bool_ite, Bool.decide_and, decide_eq_true_eq, Option.isSome_none, Option.isSome_some, Option.isNone_none,
    Option.isNone_some, List.isEmpty_map, List.isEmpty_nil, List.isEmpty_cons, $ts,*] $[$loc]?)

end Proofs.BridgeScanner
