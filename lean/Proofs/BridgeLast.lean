import Proofs.BridgeMatches

/-! For the bridge of last() (`Props.LastTie`): what `Last._decide_match` means, stated outright — it holds on the file's last line
    and on the last line the scan part selects (`holds`), and runs what it encloses exactly there, with the freeze lifted for the
    duration (`lastFn`). -/
namespace Proofs.BridgeLast
open Proofs.BridgeMatches

/-- what `last()` reads -/
structure Facts (e : Py.Env) (endIdx : Option Nat) (i : Nat) (hasScanner scanLast : Bool) (n : Nat) (ext : Py.Ext) : Prop where
  endNo : e "self.matcher.csvpath.line_monitor._physical_end_line_number" = optNatV endIdx
  lineNo : e "self.matcher.csvpath.line_monitor._physical_line_number" = .int i
  lineNo' : e "self.matcher.csvpath.line_monitor.physical_line_number" = .int i
  scanner : e "self.matcher.csvpath.scanner" = (if hasScanner then .str "scanner" else .none)
  isLast : (ext "is_last" [.int i] e).1 = .bool scanLast
  arity : e "len(self.children)" = .int n

/-- does `last()` hold on this line? -/
def holds (endIdx : Option Nat) (i : Nat) (hasScanner scanLast : Bool) : Bool := (endIdx == some i) || (hasScanner && scanLast)

/-- what `last()` leaves behind -/
def lastFn (ext : Py.Ext) (m : Bool) (n : Nat) (e : Py.Env) : Py.Env :=
  if m && n == 1 then
    Py.upd (ext "child_matches" [] (Py.upd (Py.upd e "self.match" (.bool true)) "self.matcher.csvpath.is_frozen" (.bool false))).2
      "self.matcher.csvpath.is_frozen" (.bool true)
  else Py.upd e "self.match" (.bool m)

end Proofs.BridgeLast
