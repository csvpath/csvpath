import Generated.CoreAssign
import Proofs.PyNorm
import Model.Assign

/-! For the bridge of C14 (`Props.C14Tie`): the embedding of the model's values (`emb`) and of the call's arguments, the prelude on
    embedded values in the model's terms, and the three methods `_do_assignment_new_impl` calls, each against its part of
    `Model.Assign`. -/
namespace Proofs.BridgeAssign
open Model.Assign

def emb : Val → Py.V
  | .none => .none
  | .int i => .int i
  | .str s => .str s

def optBool : Option Bool → Py.V
  | some b => .bool b
  | Option.none => .none

/-- the `args` dict `_do_assignment_new_impl` is called with -/
def argsEnv (q : Quals) (cur y : Val) (lmArg : Option Bool) : Py.Env := fun k =>
  if k = "onchange" then .bool q.onchange
  else if k = "latch" then .bool q.latch
  else if k = "onmatch" then .bool q.onmatch
  else if k = "asbool" then .bool q.asbool
  else if k = "nocontrib" then .bool q.nocontrib
  else if k = "notnone" then .bool q.notnone
  else if k = "increase" then .bool q.increase
  else if k = "decrease" then .bool q.decrease
  else if k = "noqualifiers" then .bool false
  else if k = "new_value" then emb y
  else if k = "current_value" then emb cur
  else if k = "line_matches" then optBool lmArg
  else .exc "KeyError"

def selfEnv (dm lm : Bool) : Py.Env := fun k =>
  if k = "self.default_match()" then .bool dm
  else if k = "self.line_matches()" then .bool lm
  else .exc "AttributeError"

def outRes (name tracking : Py.V) (effs : List Py.Eff) : Out → Py.Res
  | .ok (some v) vote => .ok (.bool vote) (effs ++ [{ name := "set_variable value= tracking=", args := [name, emb v, tracking] }])
  | .ok Option.none vote => .ok (.bool vote) effs
  | .typeError => .raised "TypeError" effs

def notExc : Py.V → Bool
  | .exc _ => false
  | _ => true

/-- what `line_matches` the assignment sees: the test argument when it is a bool, else the live look-ahead -/
def lmSeen (lmArg : Option Bool) (lm : Bool) : Bool := lmArg.getD lm

theorem emb_notExc (v : Val) : notExc (emb v) = true := by cases v <;> rfl

@[simp] theorem notExc_none : notExc Py.V.none = true := rfl
@[simp] theorem notExc_bool (b : Bool) : notExc (Py.V.bool b) = true := rfl
@[simp] theorem notExc_int (i : Int) : notExc (Py.V.int i) = true := rfl
@[simp] theorem notExc_str (s : String) : notExc (Py.V.str s) = true := rfl

theorem firstExc_cons (a : Py.V) (l : List Py.V) (ha : notExc a = true) :
    Py.firstExc (a :: l) = Py.firstExc l := by
  cases a <;> first | rfl | cases ha

theorem firstExc_write (name tracking : Py.V) (v : Val) (hn : notExc name = true) (ht : notExc tracking = true) :
    Py.firstExc [name, emb v, tracking] = Option.none := by
  rw [firstExc_cons _ _ hn, firstExc_cons _ _ (emb_notExc v), firstExc_cons _ _ ht]; rfl

/-! ### the prelude on embedded values: each operator of the source computes the model's -/

theorem emb_strict (a b : Val) (f : Py.V → Py.V → Py.V) : Py.strict2 (emb a) (emb b) f = f (emb a) (emb b) := by
  cases a <;> cases b <;> rfl

theorem emb_strict_none (a : Val) (f : Py.V → Py.V → Py.V) : Py.strict2 (emb a) Py.V.none f = f (emb a) Py.V.none := by
  cases a <;> rfl

theorem strict_none_emb (b : Val) (f : Py.V → Py.V → Py.V) : Py.strict2 Py.V.none (emb b) f = f Py.V.none (emb b) := by
  cases b <;> rfl

theorem eqb_emb (a b : Val) : Py.eqb (emb a) (emb b) = decide (a = b) := by
  cases a <;> cases b <;> simp [emb, Py.eqb, Py.num?] <;> rfl

theorem eqb_none_emb (b : Val) : Py.eqb Py.V.none (emb b) = decide (Val.none = b) := by
  cases b <;> simp [emb, Py.eqb, Py.num?]

theorem isb_emb_none (a : Val) : Py.isb (emb a) Py.V.none = decide (a = Val.none) := by
  cases a <;> simp [emb, Py.isb]

theorem not_emb (v : Val) : Py.not_ (emb v) = .bool (!truthy v) := by cases v <;> rfl
theorem is_emb_none (v : Val) : Py.is_ (emb v) .none = .bool (v == .none) := by
  rw [Py.is_, emb_strict_none, isb_emb_none]; rfl
theorem isnot_emb_none (v : Val) : Py.isnot (emb v) .none = .bool (!(v == .none)) := by
  rw [Py.isnot, emb_strict_none, isb_emb_none]; rfl
theorem ne_emb (a b : Val) : Py.ne (emb a) (emb b) = .bool (a != b) := by
  rw [Py.ne, emb_strict, eqb_emb]; rfl

/-- an ordering test of the model as a Python value: `none` is the TypeError -/
def ordV : Option Bool → Py.V
  | some r => .bool r
  | Option.none => .exc "TypeError"

theorem ge_emb (a b : Val) : Py.ge (emb a) (emb b) = ordV (ge? a b) := by cases a <;> cases b <;> rfl
theorem le_emb (a b : Val) : Py.le (emb a) (emb b) = ordV (le? a b) := by cases a <;> cases b <;> rfl

theorem asbool_emb (y : Val) : Py.asbool (emb y) = Py.V.bool (asbool y) := by
  cases y with
  | none => rfl
  | int i => rfl
  | str s =>
    simp only [emb, Py.asbool, asbool, apply_ite Py.V.bool]
    rfl

theorem letv_emb (v : Val) (effs : List Py.Eff) (k : Py.V → Py.Res) : Py.letv (emb v) effs k = k (emb v) := by
  cases v <;> rfl
theorem letv_bool (b : Bool) (effs : List Py.Eff) (k : Py.V → Py.Res) : Py.letv (.bool b) effs k = k (.bool b) := rfl
theorem letv_optBool (b : Option Bool) (effs : List Py.Eff) (k : Py.V → Py.Res) :
    Py.letv (optBool b) effs k = k (optBool b) := by
  cases b <;> rfl

theorem selfEnv_dm (dm lm : Bool) : selfEnv dm lm "self.default_match()" = .bool dm := if_pos rfl
theorem selfEnv_lm (dm lm : Bool) : selfEnv dm lm "self.line_matches()" = .bool lm := by
  simp only [selfEnv, String.reduceEq, ↓reduceIte]

/-- the result of a translated callee, continued -/
theorem bind_outRes (name tracking : Py.V) (effs : List Py.Eff) (o : Out) (k : Py.V → List Py.Eff → Py.Res) :
    Py.bind (outRes name tracking effs o) k =
      match o with
      | .ok (some v) vote => k (.bool vote) (effs ++ [{ name := "set_variable value= tracking=", args := [name, emb v, tracking] }])
      | .ok Option.none vote => k (.bool vote) effs
      | .typeError => .raised "TypeError" effs := by
  cases o with
  | typeError => rfl
  | ok w vote => cases w <;> rfl

/-! ### the three methods `_do_assignment_new_impl` calls, each against its part of the model

Each proof runs the method on embedded values (`simp only` with the lemmas above), which leaves the model's own
case distinction with a closed term in every branch; the model's Bools are then abstracted and the branches evaluated.
A method that calls another is unfolded by name, not by `py_core`, so that the callee's bridge rewrites the call. -/

theorem set_variable_if_bridge (q : Quals) (ret : Bool) (cur y : Val) (dm lm : Bool) (name tracking : Py.V)
    (hn : notExc name = true) (ht : notExc tracking = true) (effs : List Py.Eff) :
    Generated.Assign.Equality._set_variable_if (selfEnv dm lm) (.bool ret) name (emb cur) (emb y) tracking
        (.bool q.notnone) (.bool q.increase) (.bool q.decrease) effs
      = outRes name tracking effs (setVariableIf q ret cur y) := by
  simp only [py_core, py_eval, setVariableIf, not_emb, is_emb_none, isnot_emb_none, ge_emb, le_emb, Py.and_bools,
    Py.eff_ok (firstExc_write name tracking y hn ht)]
  generalize (q.notnone && y == Val.none) = nn
  generalize q.increase = inc
  generalize q.decrease = dec
  generalize truthy cur = tc
  generalize truthy y = ty
  generalize (cur == Val.none) = cn
  generalize ge? cur y = g
  generalize le? cur y = l
  cases nn
  case true => rfl
  cases ty
  -- a falsy new value blocks as soon as `increase` or `decrease` is on; nothing is compared
  · cases tc <;> cases inc <;> cases dec <;> rfl
  · cases tc <;> cases cn <;> cases inc <;> cases dec <;> rcases g with _ | _ | _ <;> rcases l with _ | _ | _ <;> rfl

theorem latch_and_onchange_bridge (q : Quals) (ret : Bool) (cur y : Val) (dm lm : Bool) (name tracking : Py.V)
    (hn : notExc name = true) (ht : notExc tracking = true) (effs : List Py.Eff) :
    Generated.Assign.Equality._latch_and_onchange (selfEnv dm lm) (.bool ret) (emb cur) (emb y) name tracking
        (.bool q.latch) (.bool q.onchange) (.bool q.notnone) (.bool q.increase) (.bool q.decrease) effs
      = outRes name tracking effs (latchAndOnchange q dm ret cur y) := by
  unfold Generated.Assign.Equality._latch_and_onchange
  simp only [latchAndOnchange, selfEnv_dm, py_eval, ne_emb, is_emb_none, Py.or_bools,
    set_variable_if_bridge q _ cur y dm lm name tracking hn ht effs, bind_outRes]
  generalize (cur != y) = ne
  generalize (cur == Val.none || !q.latch) = go
  generalize q.onchange = onchange
  cases ne <;> cases go <;> cases onchange <;> rfl

theorem line_matches_bridge (dm lm : Bool) (lmArg : Option Bool) :
    Py.val (Generated.Assign.Equality._test_friendly_line_matches (selfEnv dm lm) (optBool lmArg) []) =
      .bool (lmSeen lmArg lm) := by
  simp only [py_core, selfEnv_lm]
  rcases lmArg with _ | _ <;> rfl

end Proofs.BridgeAssign
