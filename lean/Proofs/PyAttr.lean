import Lean.Meta.Tactic.Simp.RegisterCommand

/-- the simp set `py_core`: every definition tools/py2lean.py generates (each is tagged with it), so that a bridge can unfold
    a translated core without naming its helpers — a helper a refactoring extracts is unfolded like the rest -/
register_simp_attr py_core

/-- the simp set `py_eval`: what the prelude's operators and statements do on values of known shape (Proofs/PyNorm.lean), for
    running a translated core symbolically with `simp only` -/
register_simp_attr py_eval
