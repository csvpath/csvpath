/-
  Run directories: padded numbers read back as written, the search for a free name answers only an unused one,
  and `:last`/`:first` as one fold whose comparison is a parameter (`pick_best`).
-/
import Model.RunDir

namespace Proofs.RunDir
open Model.RunDir

theorem dval_digit (n : Nat) : dval (digit n) = some (n % 10) := by
  have : ∀ k : Fin 10, dval (Char.ofNat (48 + k.val)) = some k.val := by decide
  exact this ⟨n % 10, Nat.mod_lt _ (by decide)⟩

theorem num_pad2 (n : Nat) (h : n < 100) : num (pad2 n) = some n := by
  simp only [num, pad2, List.foldl_cons, List.foldl_nil, dval_digit]
  congr 1; omega

theorem num_pad4 (n : Nat) (h : n < 10000) : num (pad4 n) = some n := by
  simp only [num, pad4, List.foldl_cons, List.foldl_nil, dval_digit]
  congr 1; omega

theorem firstFree_fresh (used : List Char → Bool) (name : List Char) :
    ∀ (fuel i : Nat) (r : List Char), firstFree used name fuel i = some r → used r = false := by
  intro fuel
  induction fuel with
  | zero => intro i r h; simp [firstFree] at h
  | succ n ih =>
    intro i r h
    simp only [firstFree] at h
    split at h
    · exact ih (i + 1) r h
    · rename_i hu
      cases h
      simpa using hu

/-- `pickLast` and `pickFirst` are the same fold: the head replaces the pick of the tail when it
    `beats` it.  If to beat is to be at least as good, not to beat is to be at most as good, and that
    comparison is transitive, then the pick is a best element. -/
theorem pick_best {pick : List (List Char × Nat) → Option (List Char × Nat)}
    {beats le : Nat → Nat → Prop} [DecidableRel beats] (nil : pick [] = none)
    (cons : ∀ x xs, pick (x :: xs) = match pick xs with
      | none => some x
      | some b => if beats x.2 b.2 then some x else some b)
    (trans : ∀ {a b c}, le a b → le b c → le a c)
    (yes : ∀ {a b}, beats a b → le b a) (no : ∀ {a b}, ¬ beats a b → le a b)
    {l : List (List Char × Nat)} {b : List Char × Nat} (h : pick l = some b) :
    b ∈ l ∧ ∀ x ∈ l, le x.2 b.2 := by
  have refl : ∀ a, le a a := fun a => if h : beats a a then yes h else no h
  -- stated for both outcomes, so that the induction knows the tail is empty when it yields no pick
  suffices ∀ l, match pick l with | none => l = [] | some b => b ∈ l ∧ ∀ x ∈ l, le x.2 b.2 by
    have := this l; rwa [h] at this
  intro l
  induction l with
  | nil => rw [nil]
  | cons x xs ih =>
    rw [cons]
    cases e : pick xs with
    | none =>
      simp only [e] at ih
      simpa [ih] using refl _
    | some c =>
      simp only [e] at ih
      by_cases hb : beats x.2 c.2 <;> simp only [hb, if_true, if_false, List.forall_mem_cons]
      · exact ⟨.head _, refl _, fun z hz => trans (ih.2 z hz) (yes hb)⟩
      · exact ⟨.tail _ ih.1, no hb, ih.2⟩

end Proofs.RunDir
